/-
A stable insertion sort by structural recursion (so that `decide` can evaluate it in examples, which the
well-founded `List.mergeSort` does not allow). Python's `sorted` is stable; a stable sort's result is
unique, so any stable sort models it.
-/
namespace Srt
variable {α : Type}

def ins (le : α → α → Bool) (x : α) : List α → List α
  | [] => [x]
  | y :: ys => if le x y then x :: y :: ys else y :: ins le x ys

def isort (le : α → α → Bool) : List α → List α
  | [] => []
  | x :: xs => ins le x (isort le xs)

theorem ins_perm (le : α → α → Bool) (x : α) (l : List α) : (ins le x l).Perm (x :: l) := by
  induction l with
  | nil => simp [ins]
  | cons y ys ih =>
    unfold ins
    split
    · exact List.Perm.refl _
    · exact (List.Perm.cons y ih).trans (List.Perm.swap x y ys)

theorem isort_perm (le : α → α → Bool) (l : List α) : (isort le l).Perm l := by
  induction l with
  | nil => simp [isort]
  | cons x xs ih => exact (ins_perm le x _).trans (List.Perm.cons x ih)

theorem ins_pairwise (le : α → α → Bool)
    (htrans : ∀ a b c, le a b = true → le b c = true → le a c = true)
    (htotal : ∀ a b, le a b = true ∨ le b a = true)
    (x : α) (l : List α) (h : l.Pairwise (fun a b => le a b = true)) :
    (ins le x l).Pairwise (fun a b => le a b = true) := by
  induction l with
  | nil => simp [ins]
  | cons y ys ih =>
    rw [List.pairwise_cons] at h
    unfold ins
    split
    · rename_i hxy
      refine List.pairwise_cons.mpr ⟨?_, List.pairwise_cons.mpr h⟩
      intro z hz
      rcases List.mem_cons.mp hz with rfl | hz
      · exact hxy
      · exact htrans _ _ _ hxy (h.1 z hz)
    · rename_i hxy
      have hyx : le y x = true := by
        rcases htotal x y with h1 | h1
        · exact absurd h1 hxy
        · exact h1
      refine List.pairwise_cons.mpr ⟨?_, ih h.2⟩
      intro z hz
      have := (ins_perm le x ys).mem_iff.mp hz
      rcases List.mem_cons.mp this with rfl | hz'
      · exact hyx
      · exact h.1 z hz'

theorem isort_pairwise (le : α → α → Bool)
    (htrans : ∀ a b c, le a b = true → le b c = true → le a c = true)
    (htotal : ∀ a b, le a b = true ∨ le b a = true) (l : List α) :
    (isort le l).Pairwise (fun a b => le a b = true) := by
  induction l with
  | nil => simp [isort]
  | cons x xs ih => exact ins_pairwise le htrans htotal x _ ih

/-- sorting by the decision of a total preorder `r` sorts by `r` (the comparators of the models are `decide (a ≤ b)` and the like) -/
theorem isort_decide_pairwise (r : α → α → Prop) [DecidableRel r]
    (htrans : ∀ a b c, r a b → r b c → r a c) (htotal : ∀ a b, r a b ∨ r b a) (l : List α) :
    (isort (fun x y => decide (r x y)) l).Pairwise r :=
  (isort_pairwise _
    (fun a b c h1 h2 => decide_eq_true (htrans a b c (of_decide_eq_true h1) (of_decide_eq_true h2)))
    (fun a b => (htotal a b).imp decide_eq_true decide_eq_true) l).imp of_decide_eq_true

end Srt
