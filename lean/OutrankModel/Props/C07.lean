import OutrankModel.Model.C07
/-!
# C07 – capped combination sampling is fair over any sequence of batches

`sel` keeps the first `cap` candidates of a sort by count, so everything rests on two facts about the sort: it permutes
its input (`sorted_perm`) and its output is ordered (`sorted_pairwise`). Core Lean, no Mathlib.
-/
namespace C07
set_option linter.unusedSectionVars false
variable {α : Type} [DecidableEq α]

theorem sorted_perm (cnt : α → Nat) (L : List α) :
    (Srt.isort (fun a b => decide (cnt a ≤ cnt b)) L).Perm L := Srt.isort_perm _ L

theorem sorted_pairwise (cnt : α → Nat) (L : List α) :
    (Srt.isort (fun a b => decide (cnt a ≤ cnt b)) L).Pairwise (fun a b => cnt a ≤ cnt b) :=
  Srt.isort_decide_pairwise (fun a b => cnt a ≤ cnt b) (fun _ _ _ => Nat.le_trans) (fun _ _ => Nat.le_total _ _) L

/-- C07-1a: every returned combination is one of the candidates. -/
theorem sel_subset (cnt : α → Nat) (L : List α) (cap : Nat) : ∀ x ∈ sel cnt L cap, x ∈ L := by
  intro x hx
  exact (sorted_perm cnt L).mem_iff.mp (List.mem_of_mem_take hx)

/-- C07-1b: exactly `min cap |candidates|` are returned (so exactly `cap` when there are more candidates than the cap). -/
theorem sel_length (cnt : α → Nat) (L : List α) (cap : Nat) : (sel cnt L cap).length = min cap L.length := by
  unfold sel
  rw [List.length_take, (sorted_perm cnt L).length_eq]

/-- C07-1c: the returned candidates are distinct when the candidate list is duplicate-free. -/
theorem sel_nodup (cnt : α → Nat) (L : List α) (cap : Nat) (hL : L.Nodup) : (sel cnt L cap).Nodup :=
  List.Nodup.sublist (List.take_sublist _ _) ((sorted_perm cnt L).nodup_iff.mpr hL)

/-- the selection is a sub-multiset of the candidates …  (The `BEq` instance is left free: at `α × α` the callers' `count` is
elaborated with `instBEqProd`, not with the instance that `DecidableEq` gives.) -/
theorem sel_count_le [BEq α] (cnt : α → Nat) (L : List α) (cap : Nat) (k : α) : (sel cnt L cap).count k ≤ L.count k := by
  rw [← (sorted_perm cnt L).count_eq]
  exact (List.take_sublist _ _).count_le _

/-- … and all of them when the cap does not bite -/
theorem sel_perm (cnt : α → Nat) (L : List α) (cap : Nat) (h : L.length ≤ cap) : (sel cnt L cap).Perm L := by
  unfold sel
  rw [List.take_of_length_le ((sorted_perm cnt L).length_eq ▸ h)]
  exact sorted_perm cnt L

/-- C07-2: the selection is taken from the least-evaluated candidates. -/
theorem least_first (cnt : α → Nat) (L : List α) (cap : Nat) :
    ∀ x ∈ sel cnt L cap, ∀ y ∈ L, y ∉ sel cnt L cap → cnt x ≤ cnt y := by
  intro x hx y hy hny
  -- `y` sits in the dropped tail of the sorted list, `x` in the kept head
  have hy' := (sorted_perm cnt L).mem_iff.mpr hy
  have hs := sorted_pairwise cnt L
  rw [← List.take_append_drop cap (Srt.isort _ L)] at hy' hs
  exact (List.pairwise_append.mp hs).2.2 x hx y ((List.mem_append.mp hy').resolve_left hny)

/-- C07-3 (one step) in general form: the members of `L` need only be AMONG the duplicate-free candidates of the call. -/
theorem fair_step_of_subset (cnt : α → Nat) (L L' : List α) (cap : Nat) (hL' : L'.Nodup) (hsub : ∀ a ∈ L, a ∈ L')
    (h : Spread cnt L) : Spread (call cnt L' cap).1 L := by
  intro a ha b hb
  have hab := h a ha b hb
  show cnt a + (sel cnt L' cap).count a ≤ cnt b + (sel cnt L' cap).count b + 1
  rw [(sel_nodup cnt L' cap hL').count, (sel_nodup cnt L' cap hL').count]
  -- only "`a` selected, `b` not" needs more than the hypothesis: then `a` is among the least counted
  by_cases h1 : a ∈ sel cnt L' cap <;> by_cases h2 : b ∈ sel cnt L' cap <;> simp [h1, h2]
  · omega
  · have := least_first cnt L' cap a h1 b (hsub b hb) h2; omega
  · omega
  · omega

/-- C07-3 (one step): fairness is preserved by a call on any duplicate-free list with the same members. -/
theorem fair_step (cnt : α → Nat) (L L' : List α) (cap : Nat) (hL' : L'.Nodup) (hmem : ∀ a, a ∈ L' ↔ a ∈ L)
    (h : Spread cnt L) : Spread (call cnt L' cap).1 L :=
  fair_step_of_subset cnt L L' cap hL' (fun a ha => (hmem a).mpr ha) h

/-- C07-3 in general form: the counts of the members of `L` stay within one of each other over any history of calls
whose duplicate-free candidate lists all CONTAIN `L` (they may hold other keys, and differ from call to call). -/
theorem fair_forever_of_subset (L : List α) (calls : List (List α × Nat))
    (hcalls : ∀ c ∈ calls, c.1.Nodup ∧ ∀ a ∈ L, a ∈ c.1)
    (cnt : α → Nat) (h : Spread cnt L) : Spread (run cnt calls).1 L := by
  induction calls generalizing cnt with
  | nil => exact h
  | cons c cs ih =>
    have hc := hcalls c List.mem_cons_self
    exact ih (fun c' hc' => hcalls c' (List.mem_cons_of_mem _ hc')) (call cnt c.1 c.2).1
      (fair_step_of_subset cnt L c.1 c.2 hc.1 hc.2 h)

/-- C07-3: after ANY number of batches, with caps that may change from batch to batch (zero, or larger than
the list) and candidate lists that may be presented in any order, the evaluation counts of any two
candidates of a stable duplicate-free candidate list differ by at most one. -/
theorem fair_forever (L : List α) (calls : List (List α × Nat))
    (hcalls : ∀ c ∈ calls, c.1.Nodup ∧ ∀ a, a ∈ c.1 ↔ a ∈ L)
    (cnt : α → Nat) (h : Spread cnt L) : Spread (run cnt calls).1 L :=
  fair_forever_of_subset L calls (fun c hc => ⟨(hcalls c hc).1, fun a ha => ((hcalls c hc).2 a).mpr ha⟩) cnt h

/-- the fresh counter (all zero) is fair -/
theorem spread_zero (L : List α) : Spread (fun _ => 0) L := by intro a _ b _; simp

/-- C07-4 (accounting): for an arbitrary history of calls on arbitrary lists, the final count of every key is
its initial count plus the number of times it occurs in the returned lists. -/
theorem accounting (calls : List (List α × Nat)) (cnt : α → Nat) (k : α) :
    (run cnt calls).1 k = cnt k + ((run cnt calls).2.map (fun s => s.count k)).sum := by
  induction calls generalizing cnt with
  | nil => rfl
  | cons c cs ih =>
    -- the first call adds its selection's count, the rest is the history from the bumped counter
    show (run (call cnt c.1 c.2).1 cs).1 k = cnt k + ((sel cnt c.1 c.2).count k + _)
    rw [ih, ← Nat.add_assoc]
    rfl

theorem run_returns (calls : List (List α × Nat)) (cnt : α → Nat) :
    (run cnt calls).2.length = calls.length := by
  induction calls generalizing cnt with
  | nil => rfl
  | cons c cs ih => exact congrArg (· + 1) (ih (call cnt c.1 c.2).1)

/-- `spreadB` decides `Spread` (the driver evaluates it on the implementation's counter). -/
theorem spreadB_iff (cnt : α → Nat) (L : List α) : spreadB cnt L = true ↔ Spread cnt L := by
  simp only [spreadB, Spread, List.all_eq_true, decide_eq_true_eq]

/-- C07-5: the hypothesis "stable list" is needed – two different lists sharing a key break fairness. -/
theorem unstable_not_fair :
    ¬ Spread (run (fun _ => 0) [([0, 2], 2), ([0, 3], 2)]).1 [0, 1] := by
  rw [← spreadB_iff]; decide

/-- the oracle the driver runs on the implementation's output accepts the model's output, for all inputs -/
theorem callSpecB_model (cnt : α → Nat) (L : List α) (cap : Nat) : callSpecB cnt L cap (sel cnt L cap) = true := by
  simp only [callSpecB, Bool.and_eq_true, decide_eq_true_eq, List.all_eq_true, Bool.or_eq_true,
    Bool.not_eq_true', decide_eq_false_iff_not, List.contains_iff_mem]
  exact ⟨⟨⟨sel_length cnt L cap, sel_subset cnt L cap⟩, (Decidable.em L.Nodup).symm.imp_right (sel_nodup cnt L cap)⟩,
    fun x hx y hy => (Decidable.em (y ∈ sel cnt L cap)).imp_right (least_first cnt L cap x hx y hy)⟩

/-! non-vacuity: concrete histories meeting the hypotheses -/
example : (run (fun _ => 0) [([3, 1, 2], 2), ([2, 1, 3], 2), ([1, 2, 3], 5), ([1, 2, 3], 0)]).2
    = [[3, 1], [2, 1], [2, 3, 1], []] := by decide
example : Spread (run (fun _ => 0) [([3, 1, 2], 2), ([2, 1, 3], 2)]).1 [1, 2, 3] := by
  refine fair_forever [1, 2, 3] _ ?_ _ (spread_zero _)
  simp only [List.forall_mem_cons, List.not_mem_nil, false_imp_iff, implies_true, and_true]
  exact ⟨⟨by decide, fun _ => (by decide : [3, 1, 2].Perm [1, 2, 3]).mem_iff⟩,
    by decide, fun _ => (by decide : [2, 1, 3].Perm [1, 2, 3]).mem_iff⟩

end C07
