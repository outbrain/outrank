import OutrankModel.Model.C18
import OutrankModel.Lemmas.C18Agg
/-!
# C18 – feature summary = per-feature median of label scores, sorted, normalised

`summary label heuristic rows` is the model of `feature_singles.tsv`, `aggregated` of `feature_singles_aggregated.tsv`
(Model/C18.lean); `none` = the all-NaN column the code writes when an MI heuristic meets max = min (0/0).
Everything holds for ALL triplet tables (any number of rows/features, any names, duplicated orientations, any rational
scores) and all heuristic names.  The name preconditions are explicit and decidable:

* `WF label L rows` – a name of the table is recognised as the label (`label == name.split('-')[0]`) exactly when it is
  the label's table name `L`;  `wf_of_syntactic` derives it from "the label has no `-`, `L` is the label or `label-…`, no
  other name has the label before its first `-`";  `label_with_dash_never_matches` / `prefix_feature_mistaken` show
  that both parts are needed.
* interaction names: `constituents_render` needs constituents without `-` and without a space (the design's weaker
  "no ` AND ` inside a constituent" is NOT enough: `constituent_ending_AND`).
* `min < max` for the normalisation (otherwise `normalise_undefined_iff`).
-/
namespace C18

/-- the median of a non-empty list exists … -/
theorem median_isSome {l : List Rat} (h : l ≠ []) : ∃ m, median l = some m := median_isSome' h

/-- … is the middle value (mean of the two middle values for even length) of ANY ascending arrangement … -/
theorem median_eq_of_sorted_perm {l s : List Rat} (hp : s.Perm l) (hs : s.Pairwise (· ≤ ·)) :
    median l = medianSorted s := median_eq_of_sorted_perm' hp hs

/-- … and therefore a function of the multiset of values (row order is irrelevant). -/
theorem median_perm {l l' : List Rat} (h : l.Perm l') : median l = median l' := median_perm' h

/-- duplicated orientations double every value; that does not change the median -/
theorem median_of_perm_double {l l' : List Rat} (h : l'.Perm (l ++ l)) : median l' = median l :=
  (median_perm' h).trans (median_append_self l)

theorem summary_plain {label heuristic : Name} (rows : List Row) (hmi : isMI heuristic = false) :
    summary label heuristic rows = some (medians label rows) :=
  if_neg (hmi ▸ Bool.false_ne_true)

theorem summary_mi {label heuristic : Name} (rows : List Row) (hmi : isMI heuristic = true) :
    summary label heuristic rows = normalise (medians label rows) :=
  if_pos hmi

/-- names and order of the summary are those of `medians`: normalisation only maps the scores through a monotone function -/
theorem summary_eq_map {label heuristic : Name} {rows : List Row} {T : Table}
    (h : summary label heuristic rows = some T) :
    ∃ g : Rat → Rat, Monotone g ∧ T = (medians label rows).map fun p => (p.1, g p.2) := by
  cases hmi : isMI heuristic
  · rw [summary_plain rows hmi] at h
    cases h
    exact ⟨id, monotone_id, (List.map_id _).symm⟩
  · rw [summary_mi rows hmi] at h
    exact normalise_eq_map h

/-- C18-1: every feature the loop records for the label appears exactly once, and nothing else appears
(no precondition; `Contributes` is the literal if/elif of the code). -/
theorem each_feature_once_raw {label heuristic : Name} {rows : List Row} {T : Table}
    (h : summary label heuristic rows = some T) :
    (T.map (·.1)).Nodup ∧ ∀ f, f ∈ T.map (·.1) ↔ ∃ r ∈ rows, Contributes label r f := by
  obtain ⟨g, _, rfl⟩ := summary_eq_map h
  rw [List.map_map]
  exact ⟨medians_names_nodup label rows, fun f => mem_medians_names⟩

/-- C18-1 under the name precondition: the table lists exactly the features that were scored against the label
(in either orientation), each once. -/
theorem each_feature_once {label L heuristic : Name} {rows : List Row} {T : Table} (hwf : WF label L rows)
    (h : summary label heuristic rows = some T) :
    (T.map (·.1)).Nodup ∧ ∀ f, f ∈ T.map (·.1) ↔ ∃ r ∈ rows, Pairs L f r := by
  obtain ⟨h1, h2⟩ := each_feature_once_raw h
  exact ⟨h1, fun f => (h2 f).trans (contributes_iff_of_WF hwf f)⟩

/-- C18-2: the score of a feature is the median of ALL its feature–label scores (both orientations pooled).
Stated for the un-normalised table `medians` (which IS the summary for non-MI heuristics, `summary_plain`). -/
theorem score_is_median {label L : Name} {rows : List Row} (hwf : WF label L rows) (f : Name) (m : Rat) :
    (f, m) ∈ medians label rows ↔ (∃ r ∈ rows, Pairs L f r) ∧ median (labelScores L f rows) = some m := by
  rw [mem_medians, scoresOf_select_eq f hwf, contributes_iff_of_WF hwf f]

def Row.swap (r : Row) : Row := ⟨r.b, r.a, r.s⟩

/-- C18-2 (duplicated orientations): adding the mirrored copy of every row does not change any feature's median -/
theorem mirrored_rows_same_median (L f : Name) (rows : List Row) :
    median (labelScores L f (rows ++ rows.map Row.swap)) = median (labelScores L f rows) := by
  have hswap : labelScores L f (rows.map Row.swap) = labelScores L f rows := by
    rw [labelScores, List.filterMap_map]
    exact List.filterMap_congr fun r _ => if_congr or_comm rfl rfl
  apply median_of_perm_double
  rw [labelScores, List.filterMap_append]
  exact List.Perm.of_eq (congrArg _ hswap)

/-- C18-3: descending score order (with and without normalisation) -/
theorem sorted_desc {label heuristic : Name} {rows : List Row} {T : Table}
    (h : summary label heuristic rows = some T) : Desc T := by
  obtain ⟨g, hg, rfl⟩ := summary_eq_map h
  exact List.pairwise_map.mpr ((medians_sorted label rows).imp (hg ·))

/-- C18-4: for MI-type heuristics the table is the medians table mapped through `s ↦ (s − min)/(max − min)`,
same features in the same order, `min`/`max` the smallest/largest median and `min < max`. -/
theorem normalised {label heuristic : Name} {rows : List Row} {T : Table} (hmi : isMI heuristic = true)
    (h : summary label heuristic rows = some T) (hne : T ≠ []) :
    ∃ mn mx, mn < mx ∧ IsMinMax (medians label rows) mn mx ∧
      T = (medians label rows).map fun p => (p.1, scale mn mx p.2) := by
  rw [summary_mi rows hmi] at h
  have hne' : medians label rows ≠ [] := by
    intro e; rw [e, normalise_nil] at h; cases h; exact hne rfl
  exact normalise_some hne' h

/-- the normalisation map sends min ↦ 0, max ↦ 1 and is strictly monotone (order preserved, ties stay ties) -/
theorem scale_props {mn mx : Rat} (h : mn < mx) :
    scale mn mx mn = 0 ∧ scale mn mx mx = 1 ∧ (∀ s s', scale mn mx s < scale mn mx s' ↔ s < s') ∧
      (∀ s s', scale mn mx s = scale mn mx s' ↔ s = s') :=
  ⟨scale_min mn mx, scale_max h, fun _ _ => (scale_strictMono h).lt_iff_lt, fun _ _ => (scale_strictMono h).injective.eq_iff⟩

/-- … so that the normalised scores have minimum 0 and maximum 1 -/
theorem normalised_minmax {label heuristic : Name} {rows : List Row} {T : Table} (hmi : isMI heuristic = true)
    (h : summary label heuristic rows = some T) (hne : T ≠ []) : IsMinMax T 0 1 := by
  obtain ⟨mn, mx, hlt, hmm, rfl⟩ := normalised hmi h hne
  exact hmm.map_scale hlt

theorem normalised_range {label heuristic : Name} {rows : List Row} {T : Table} (hmi : isMI heuristic = true)
    (h : summary label heuristic rows = some T) : ∀ p ∈ T, 0 ≤ p.2 ∧ p.2 ≤ 1 :=
  fun p hp => (normalised_minmax hmi h (List.ne_nil_of_mem hp)).2.2 p hp

/-- the best feature (first row) has 1 … -/
theorem best_is_one {label heuristic : Name} {rows : List Row} {T : Table} (hmi : isMI heuristic = true)
    (h : summary label heuristic rows = some T) {p : Name × Rat} (hp : T.head? = some p) : p.2 = 1 :=
  head_is_max (sorted_desc h) (normalised_minmax hmi h (List.ne_nil_of_mem (List.mem_of_mem_head? hp))) hp

/-- … and the worst (last row) has 0. -/
theorem worst_is_zero {label heuristic : Name} {rows : List Row} {T : Table} (hmi : isMI heuristic = true)
    (h : summary label heuristic rows = some T) {p : Name × Rat} (hp : T.getLast? = some p) : p.2 = 0 :=
  last_is_min (sorted_desc h) (normalised_minmax hmi h (List.ne_nil_of_mem (List.mem_of_getLast? hp))) hp

/-- the excluded region: the code's 0/0 (NaN column) arises exactly when there is a feature and all medians are equal -/
theorem normalise_undefined_iff {label heuristic : Name} (rows : List Row) (hmi : isMI heuristic = true) :
    summary label heuristic rows = none ↔
      medians label rows ≠ [] ∧ ∀ p ∈ medians label rows, ∀ q ∈ medians label rows, p.2 = q.2 := by
  rw [summary_mi rows hmi]; exact normalise_eq_none_iff _

/-! ## the aggregated table (interaction order > 1) -/

/-- C18-5a: one row per constituent of the interactions of the summary table, nothing else -/
theorem aggregated_each_once (t : Table) :
    ((aggregated t).map (·.1)).Nodup ∧
      ∀ k, k ∈ (aggregated t).map (·.1) ↔ ∃ p ∈ t, isInteraction p.1 = true ∧ k ∈ constituents p.1 := by
  unfold aggregated
  rw [names_groupMedian]
  exact ⟨nodup_dedup _, fun k => mem_dedup.trans mem_storePairs_names⟩

/-- C18-5b: its score is the median of the scores of the interactions it takes part in (one value per occurrence) -/
theorem aggregated_median (t : Table) (k : Name) (m : Rat) :
    (k, m) ∈ aggregated t ↔
      (∃ p ∈ t, isInteraction p.1 = true ∧ k ∈ constituents p.1) ∧ median (storeScores k t) = some m := by
  unfold aggregated
  rw [mem_groupMedian, mem_storePairs_names, scoresOf_storePairs]

/-- the aggregated file is computed from the (possibly normalised) summary table -/
theorem aggregatedSummary_eq (label heuristic : Name) (rows : List Row) (A : Table) :
    aggregatedSummary label heuristic rows = some A ↔ ∃ T, summary label heuristic rows = some T ∧ A = aggregated T := by
  simp only [aggregatedSummary, Option.map_eq_some_iff, eq_comm (a := A)]

/-- with distinct constituents per interaction: the scores of exactly the interactions containing `k` -/
theorem storeScores_nodup (k : Name) (t : Table) (h : ∀ p ∈ t, (constituents p.1).Nodup) :
    storeScores k t = interactionScores k t := by
  unfold storeScores interactionScores
  induction t with
  | nil => rfl
  | cons p ps ih =>
    rw [List.flatMap_cons, ih fun q hq => h q (List.mem_cons_of_mem _ hq), List.filter_cons, List.filter_beq,
      (h p List.mem_cons_self).count]
    cases isInteraction p.1
    · rfl
    · by_cases hk : k ∈ constituents p.1 <;> simp [hk]

/-- the code's parse of an interaction name recovers the constituents, for plain (`a AND b`) and annotated
(`a AND b-(12; 100)`) names, when no constituent contains `-` or a space -/
theorem constituents_render (cs : List Name) (hne : cs ≠ []) (h : ∀ x ∈ cs, ' ' ∉ x ∧ '-' ∉ x) :
    constituents (joinAND cs) = cs ∧ ∀ suffix, constituents (joinAND cs ++ '-' :: suffix) = cs := by
  have hd := dash_not_mem_joinAND fun x hx => (h x hx).2
  have key := splitOn_joinAND hne fun x hx => (h x hx).1
  exact ⟨by rw [constituents, beforeDash_of_no_dash hd, key],
    fun _ => by rw [constituents, beforeDash_append_dash hd, key]⟩

/-- a name built from ≥ 2 constituents is recognised as an interaction -/
theorem isInteraction_render (c d : Name) (cs : List Name) (suffix : List Char) :
    isInteraction (joinAND (c :: d :: cs) ++ suffix) = true :=
  (hasInfix_iff _ _).mpr ⟨c ++ [' '], ' ' :: (joinAND (d :: cs) ++ suffix), by simp [joinAND, sepAND]⟩

/-! ## the name preconditions, and why each is needed -/

/-- `WF` from the syntactic conditions of DESIGN §5 -/
theorem wf_of_syntactic {label L : Name} {rows : List Row} (hl : '-' ∉ label)
    (hL : L = label ∨ ∃ suffix, L = label ++ '-' :: suffix)
    (hother : ∀ r ∈ rows, (r.a ≠ L → beforeDash r.a ≠ label) ∧ (r.b ≠ L → beforeDash r.b ≠ label)) :
    WF label L rows := by
  have hLL : beforeDash L = label := by
    rcases hL with rfl | ⟨s, rfl⟩
    · exact beforeDash_of_no_dash hl
    · exact beforeDash_append_dash hl s
  have key : ∀ n, (n ≠ L → beforeDash n ≠ label) → (isLabel label n = true ↔ n = L) := fun n hn =>
    beq_iff_eq.trans ⟨fun h => by_contra fun hne => hn hne h.symm, fun e => (e ▸ hLL).symm⟩
  exact fun r hr => ⟨key _ (hother r hr).1, key _ (hother r hr).2⟩

/-- the driver's Boolean is the precondition -/
theorem wfB_iff (label L : Name) (rows : List Row) : wfB label L rows = true ↔ WF label L rows := by
  have key : ∀ (b : Bool) (n : Name), (b == (n == L)) = true ↔ (b = true ↔ n = L) := fun b n => by
    rw [beq_iff_eq, Bool.eq_iff_iff, beq_iff_eq]
  simp only [wfB, WF, List.all_eq_true, Bool.and_eq_true, key]

/-- a label containing `-` is never recognised: the summary is empty whatever the table holds -/
theorem label_with_dash_never_matches {label : Name} (h : '-' ∈ label) (n : Name) : isLabel label n = false := by
  rw [isLabel, beq_eq_false_iff_ne]
  rintro rfl
  exact dash_not_mem_beforeDash n h

/-- a plain feature named `label-x` is mistaken for the label: `g` is listed although it was never scored against `label` -/
theorem prefix_feature_mistaken :
    summary ['l','a','b','e','l'] ['x'] [⟨['l','a','b','e','l','-','x'], ['g'], 1⟩] = some [(['g'], 1)] := by
  decide +kernel

/-- a constituent containing `-` is cut: `my-f AND g` ↦ [`my`] -/
theorem constituent_with_dash :
    constituents ['m','y','-','f',' ','A','N','D',' ','g'] = [['m','y']] := by decide +kernel

/-- constituents `x AND` and `y` contain no ` AND `, yet `x AND AND y` splits into `x`, `AND y` -/
theorem constituent_ending_AND :
    constituents (joinAND [['x',' ','A','N','D'], ['y']]) = [['x'], ['A','N','D',' ','y']] := by decide +kernel

/-- a plain feature whose name contains `AND` is treated as an interaction (its own constituent) -/
theorem plain_name_containing_AND :
    isInteraction ['B','R','A','N','D'] = true ∧ constituents ['B','R','A','N','D'] = [['B','R','A','N','D']] := by decide +kernel

/-! ## the decidable checker the driver applies to the implementation's files -/

/-- `check … = true` with tolerance 0 means: the file is a descending rearrangement of the model table
(so every clause above, being invariant under rearranging ties, holds of the file) -/
theorem check_sound {label heuristic : Name} {rows : List Row} {out : Table}
    (h : checkB label heuristic 0 rows out = true) :
    ∃ T, summary label heuristic rows = some T ∧ out.Perm T ∧ Desc out := by
  unfold checkB at h
  split at h
  · rename_i T hT
    rw [Bool.and_eq_true] at h
    exact ⟨T, hT, matchesB_exact h.1, (sortedDescB_iff out).mp h.2⟩
  · cases h

/-- the model passes its own check (any tolerance ≥ 0) -/
theorem check_model {label heuristic : Name} {rows : List Row} {T : Table} {tol : Rat} (htol : 0 ≤ tol)
    (h : summary label heuristic rows = some T) : checkB label heuristic tol rows T = true := by
  rw [checkB, h]
  exact Bool.and_eq_true_iff.mpr
    ⟨matchesB_of_perm htol (each_feature_once_raw h).1 (.refl T), (sortedDescB_iff T).mpr (sorted_desc h)⟩

theorem checkAgg_sound {label heuristic : Name} {rows : List Row} {out : Table}
    (h : checkAggB label heuristic 0 rows out = true) :
    ∃ T, aggregatedSummary label heuristic rows = some T ∧ out.Perm T := by
  unfold checkAggB at h
  split at h
  · rename_i T hT; exact ⟨T, hT, matchesB_exact h⟩
  · cases h

theorem checkAgg_model {label heuristic : Name} {rows : List Row} {T : Table} {tol : Rat} (htol : 0 ≤ tol)
    (h : aggregatedSummary label heuristic rows = some T) : checkAggB label heuristic tol rows T = true := by
  obtain ⟨S, _, rfl⟩ := (aggregatedSummary_eq _ _ _ T).mp h
  rw [checkAggB, h]
  exact matchesB_of_perm htol (aggregated_each_once S).1 (.refl _)

/-! ## non-vacuity: a table with both orientations, an annotated label, ties, an even group and an interaction -/
section Example
def lab : Name := ['y']
def labN : Name := ['y','-','(','2',';',' ','9',')']
def exRows : List Row :=
  [⟨['a'], labN, 1/2⟩, ⟨labN, ['a'], 1/2⟩, ⟨['a'], labN, 3/2⟩, ⟨labN, ['a'], 3/2⟩,
   ⟨['b'], labN, -1⟩, ⟨labN, labN, 4⟩, ⟨['a'], ['b'], 9⟩,
   ⟨['a',' ','A','N','D',' ','b','-','(','3',')'], labN, 2⟩]

example : WF lab labN exRows := by decide +kernel
example : summary lab ['S','G','D'] exRows =
    some [(labN, 4), (['a',' ','A','N','D',' ','b','-','(','3',')'], 2), (['a'], 1), (['b'], -1)] := by decide +kernel
example : summary lab ['A','M','I'] exRows =
    some [(labN, 1), (['a',' ','A','N','D',' ','b','-','(','3',')'], 3/5), (['a'], 2/5), (['b'], 0)] := by decide +kernel
example : aggregatedSummary lab ['S','G','D'] exRows = some [(['a'], 2), (['b'], 2)] := by decide +kernel
example : summary lab ['M','I'] [⟨['a'], lab, 1⟩, ⟨['b'], lab, 1⟩] = none := by decide +kernel
example : constituents (joinAND [['a'], ['b'], ['c']] ++ '-' :: ['(','3',';',' ','1',')']) = [['a'], ['b'], ['c']] :=
  (constituents_render _ (List.cons_ne_nil _ _) (by decide +kernel)).2 _
end Example

end C18
