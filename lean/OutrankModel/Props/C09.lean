import OutrankModel.Lemmas.StreamSched
import OutrankModel.Props.C08
/-!
# C09 – results independent of worker count and scheduling, and reproducible

What is PROVED here: given that every result carries its two names and the score of a pair is a function of the pair
and the batch (purity – checked by the tie, not provable about CPython), NO schedule can matter: neither the shuffle of
the combination list, nor the partition over workers / completion order of the pool, nor (for symmetric scorers, for
`target_ranking_only`, and for the repaired column selection in general) the iteration order of a Python `set`.
What the real operating system does with real processes is SAMPLED by the harness.
Core Lean, no Mathlib.
-/
namespace C09
open Stream
variable {κ ν σ : Type}

/-- C09-1: the aggregated table is invariant under ANY permutation of the triplet rows. -/
theorem aggregate_perm [DecidableEq κ] (kle : κ → κ → Bool) (o : Ops σ) (hk : LinOrd kle) (ho : LinOrd o.le)
    (rows rows' : List (κ × σ)) (hp : rows.Perm rows') : aggregate kle o rows = aggregate kle o rows' :=
  groupBy_perm kle hk _ (median_perm o ho) hp

/-- C09-2: for ANY two schedules (per batch: any shuffle of the combination list, any order in which the pool hands
back the results – in particular any partition over any number of workers and any completion order), the final table
(pair ↦ median, keys in sorted order) is the same.  Needs only that a schedule rearranges (loses / duplicates nothing),
that each result carries its names (`batchRows`) and that each batch's scorer (`fs`, paired with the batch's
combination list) is a function of the pair;
it does NOT need `amap` to preserve order. -/
theorem schedule_independent [DecidableEq ν] (kle : ν × ν → ν × ν → Bool) (o : Ops σ) (hk : LinOrd kle)
    (ho : LinOrd o.le) (fs : List ((ν × ν → σ) × List (ν × ν))) (ss ss' : List (Sched ν σ))
    (hl : ss.length = fs.length) (hl' : ss'.length = fs.length)
    (hv : ∀ s ∈ ss, s.Valid) (hv' : ∀ s ∈ ss', s.Valid) :
    table kle o (ss.zip fs) = table kle o (ss'.zip fs) := by
  have canon : ∀ ss : List (Sched ν σ), ss.length = fs.length → (∀ s ∈ ss, s.Valid) →
      (allRows (ss.zip fs)).Perm (fs.flatMap fun fc => canonRows fc.1 fc.2) := fun ss hl hv => by
    have h := allRows_canon (ss.zip fs) fun it hit => hv it.1 (List.of_mem_zip hit).1
    rwa [List.map_snd_zip (Nat.le_of_eq hl.symm)] at h
  exact aggregate_perm kle o hk ho _ _ ((canon ss hl hv).trans (canon ss' hl' hv').symm)

/-- the identity schedule: submission order, results in order (what an order-preserving `amap` with one worker does) -/
def idSched : Sched ν σ := ⟨id, id⟩
theorem idSched_valid : (idSched : Sched ν σ).Valid := ⟨fun _ => List.Perm.refl _, fun _ => List.Perm.refl _⟩

/-- reversal of both lists is a valid schedule too (non-vacuity of `Valid` beyond the identity) -/
theorem revSched_valid : (⟨List.reverse, List.reverse⟩ : Sched ν σ).Valid :=
  ⟨fun l => List.reverse_perm l, fun l => List.reverse_perm l⟩

/-- a completion order as the driver expresses it: an index list (`applyPerm`) -/
example : applyPerm [2, 0, 1] ['a', 'b', 'c'] = ['c', 'a', 'b'] := by decide +kernel

/-- C09-3: column order.  When the frame's columns are permuted (Python `set` iteration order), the rows of a batch are
only rearranged – hence the table is unchanged – provided the heuristic is symmetric OR only label pairs are ranked
(`target_ranking_only`: the label is always moved to the second place, so the orientation is canonical). -/
theorem column_order_independent [DecidableEq ν] [DecidableEq σ] (kle : ν × ν → ν × ν → Bool) (o : Ops σ)
    (hk : LinOrd kle) (ho : LinOrd o.le) (targetOnly : Bool) (label : ν) (g : ν → ν → σ)
    (hsym : targetOnly = true ∨ ∀ a b, g a b = g b a) (cols cols' : List ν) (hp : cols.Perm cols') :
    aggregate kle o (colRows targetOnly label g cols) = aggregate kle o (colRows targetOnly label g cols') :=
  aggregate_perm kle o hk ho _ _ (colRows_perm targetOnly label g hsym hp)

/-- C09-3 (defect F13): for an ASYMMETRIC heuristic in pairwise mode the column order decides which orientation of a
pair is scored, and the table changes: columns `[1,2]` vs `[2,1]`, label `0`, `g first second = first`. -/
theorem column_order_dependent_asym :
    aggregate pairLe natOps (colRows false 0 (fun a _ => a) [1, 2])
      ≠ aggregate pairLe natOps (colRows false 0 (fun a _ => a) [2, 1]) := by decide +kernel

/-- before the fix the focused frame took its columns in the iteration order of the focus `set`: two enumerations of
the same set give two column orders … -/
theorem focus_old_depends : focusOld [1, 2, 0] [0, 1, 2] ≠ focusOld [2, 1, 0] [0, 1, 2] := by decide +kernel

/-- … after the fix (columns in FILE order) the focused columns depend only on the SET, not on its enumeration … -/
theorem focus_new_fixed [DecidableEq ν] (enum enum' fileCols : List ν) (h : ∀ x, x ∈ enum ↔ x ∈ enum') :
    focusNew enum fileCols = focusNew enum' fileCols :=
  List.filter_congr fun x _ => decide_eq_decide.mpr (h x)

/-- … so the table of the repaired code is a function of the file and the arguments only, for EVERY heuristic
(symmetric or not) and both ranking modes. -/
theorem column_order_fixed [DecidableEq ν] (kle : ν × ν → ν × ν → Bool) (o : Ops σ) (targetOnly : Bool) (label : ν)
    (g : ν → ν → σ) (enum enum' fileCols : List ν) (h : ∀ x, x ∈ enum ↔ x ∈ enum') :
    aggregate kle o (colRows targetOnly label g (focusNew enum fileCols))
      = aggregate kle o (colRows targetOnly label g (focusNew enum' fileCols)) := by
  rw [focus_new_fixed enum enum' fileCols h]

/-- the old selection is at least a rearrangement of the new one (same columns), which is why the defect was invisible
for symmetric heuristics and in `target_ranking_only` mode (`column_order_independent`) -/
theorem focus_old_perm_new [DecidableEq ν] (enum fileCols : List ν) (hn : enum.Nodup) (hf : fileCols.Nodup) :
    (focusOld enum fileCols).Perm (focusNew enum fileCols) := by
  unfold focusOld focusNew
  rw [List.perm_ext_iff_of_nodup (hn.filter _) (hf.filter _)]
  intro a
  simp only [List.mem_filter, decide_eq_true_eq]
  exact and_comm

-- two batches, two different valid schedules, same table
example : table pairLe natOps ([idSched, ⟨List.reverse, List.reverse⟩].zip
      [(fun p => p.1 + p.2, combos false 0 [0, 1, 2]), (fun p => p.1 * p.2 + 7, combos false 0 [0, 1, 2])])
    = table pairLe natOps ([⟨List.reverse, id⟩, idSched].zip
      [(fun p => p.1 + p.2, combos false 0 [0, 1, 2]), (fun p => p.1 * p.2 + 7, combos false 0 [0, 1, 2])]) :=
  schedule_independent pairLe natOps C08.pairLe_linOrd C08.natOps_linOrd _ _ _ rfl rfl
    (List.forall_mem_cons.mpr ⟨idSched_valid, List.forall_mem_singleton.mpr revSched_valid⟩)
    (List.forall_mem_cons.mpr ⟨⟨List.reverse_perm, fun _ => .refl _⟩, List.forall_mem_singleton.mpr idSched_valid⟩)
example : combos true 0 [1, 0, 2] = [(1, 0), (0, 0), (0, 2)] := by decide +kernel
example : combos false 0 [0, 1] = [(0, 0), (0, 1), (1, 1), (1, 1)] := by decide +kernel

end C09
