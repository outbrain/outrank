import OutrankModel.Props.C01
/-!
# C02 – scores depend on co-occurrence structure, not on numeric category codes
-/
namespace MI

/-- C02-1: renaming the category codes of either vector through any map that is injective on the occurring codes
(permutations, offsets, order reversal, sparse recodings …) leaves the score unchanged, with and without correction.
`hfg`: the two renamings do not make different vectors identical (the self-pair test looks at the renamed vectors);
without it the corrected score does change (`Y = [0, 1]`, `X = [1, 0]`, `f = id`, `g v = 1 - v`). -/
theorem relabel_invariant (Y X : List Nat) (f g : Nat → Nat) (h : Y.length = X.length) (hn : 0 < X.length)
    (hf : InjOnList f Y) (hg : InjOnList g X) (hfg : (Y.map f = X.map g) ↔ (Y = X)) (cc : Bool) :
    estimator realOps (Y.map f) (X.map g) 1 1 cc = estimator realOps Y X 1 1 cc := by
  have h' : (Y.map f).length = (X.map g).length := by simp [h]
  have hn' : 0 < (X.map g).length := by simpa using hn
  have hY : 0 < Y.length := h ▸ hn
  have plain : estimator realOps (Y.map f) (X.map g) 1 1 false = estimator realOps Y X 1 1 false := by
    rw [estimator_eq_plugin _ _ h' hn', estimator_eq_plugin Y X h hn, miPlugin_map f g Y X hf hg]
  cases cc
  · exact plain
  · by_cases hYX : Y = X
    · subst hYX
      rw [estimator_self_cc Y, ← plain, ← hfg.mpr rfl]
      exact estimator_self_cc _ true
    · have hne' : Y.map f ≠ X.map g := fun e => hYX (hfg.mp e)
      rw [estimator_corr _ _ h' hne', estimator_corr Y X h hYX, ystar_map f g Y X hY hg,
        condEntropy_map f g (ystar Y X) X (hf.mono fun _ => mem_ystar Y X hY) hg, condEntropy_map f g Y X hf hg]

/-- C02-2a: the self-pair handling (no correction) applies when the two vectors are element-wise identical … -/
theorem dispatch_identical (X : List Nat) (cc : Bool) :
    estimator realOps X X 1 1 cc = estimator realOps X X 1 1 false :=
  estimator_self_cc X cc

/-- C02-2b: … and ONLY then: two different vectors always get the corrected score `H(Y*|X) − H(Y|X)`,
whatever their code sums. -/
theorem dispatch_different (Y X : List Nat) (h : Y.length = X.length) (hn : 0 < X.length) (hne : Y ≠ X) :
    estimator realOps Y X 1 1 true = .ok (condEntropy (ystar Y X) X - condEntropy Y X) :=
  estimator_corr Y X h hne

/-- C02-3: why the old `np.sum(X - Y) == 0` test violated the property: equal code sums, different vectors,
and the two branches give different scores. -/
theorem sum_test_unsound :
    ∃ Y X : List Nat, Y ≠ X ∧ Y.sum = X.sum ∧ Y.length = X.length ∧
      estimator realOps Y X 1 1 true ≠ estimator realOps Y X 1 1 false := by
  refine ⟨[0, 1], [1, 0], by decide, by decide, by decide, ?_⟩
  -- the corrected score of an all-distinct feature is 0, its plain score is the target's entropy `log 2`
  rw [estimator_alldistinct [0, 1] [1, 0] rfl (by decide) (by decide),
    estimator_eq_plugin [0, 1] [1, 0] rfl (by decide), plugin_alldistinct_left [0, 1] [1, 0] rfl (by decide) (by decide),
    entropy_nodup _ (by decide)]
  intro e
  have h2 : (0 : ℝ) = Real.log (2 : ℕ) := by injection e
  exact (Real.log_pos (by norm_num)).ne h2

example : InjOnList (fun v => 1000 - v) [0, 1, 0, 2] := by
  unfold InjOnList; decide

end MI
