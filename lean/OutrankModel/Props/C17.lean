import OutrankModel.Model.C17
import OutrankModel.Lemmas.Greedy3MR
/-!
# C17 – the 3MR ranking is a greedy-optimal permutation of the features

Statements are about `C17.rank3mr` (Model/C17.lean, the definitions the driver executes), for ALL relevance
dictionaries with distinct keys (any number of features), ALL redundancy / relation dictionaries (dense, sparse, with
duplicate or irrelevant keys), ALL rational scores (ties, negatives), ALL three strategies, ALL rational `α β`
(the property only needs `α β ≥ 0`; no sign condition is used) and EVERY iteration order of the Python set
(`iterOrder` = any function returning a permutation of its argument).

Scores are exact rationals: the float rounding of the implementation is outside these theorems (the harness generates
inputs on which every float operation of the implementation is exact).
-/
namespace C17

/-- the objective of the property: `relevance − α·agg(redundancy with ranked) + β·agg(relation with ranked)`,
pairs looked up as `(ranked, candidate)`, missing pairs 0 -/
abbrev obj (rel : RelDict) (red rln : PairDict) (st : Strategy) (α β : Rat) : List Nat → Nat → Rat :=
  objective (relOf rel) (pairOf red) (pairOf rln) st α β

/-- The property, sentence by sentence: `r` lists every feature exactly once (`Perm` of the distinct keys), starts with
a feature of maximal relevance, and at every later position `k` places a remaining feature maximising the objective
against the `k` features before it. -/
def IsGreedy (rel : RelDict) (red rln : PairDict) (st : Strategy) (α β : Rat) (r : List Nat) : Prop :=
  r.Perm (keys rel) ∧
  (∀ f0, r.head? = some f0 → ∀ g ∈ keys rel, relOf rel g ≤ relOf rel f0) ∧
  (∀ k f, 1 ≤ k → r[k]? = some f → ∀ g ∈ keys rel, g ∉ r.take k →
    obj rel red rln st α β (r.take k) g ≤ obj rel red rln st α β (r.take k) f)

variable (rel : RelDict) (red rln : PairDict) (st : Strategy) (α β : Rat)

/-- `relOf rel f` is `relevance_dict[f]` -/
theorem relOf_item (hnd : (keys rel).Nodup) {f : Nat} {v : Rat} (h : (f, v) ∈ rel) : relOf rel f = v := by
  obtain ⟨l₁, l₂, rfl⟩ := List.append_of_mem h
  rw [keys, List.map_append, List.nodup_append] at hnd
  -- no entry before `(f, v)` has the key `f`, so the lookup stops there
  rw [relOf, List.lookup_eq_some_iff.2 ⟨l₁, l₂, rfl, fun p hp =>
    bne_iff_ne.2 fun e => hnd.2.2 _ (List.mem_map_of_mem hp) _ List.mem_cons_self e.symm⟩]
  rfl

/-- head and later positions of the property are the one positional condition `PosOk` the lemmas work with -/
theorem isGreedy_iff_posOk (r : List Nat) :
    IsGreedy rel red rln st α β r ↔
      r.Perm (keys rel) ∧ ∀ k, PosOk (keys rel) (relOf rel) (obj rel red rln st α β) r k := by
  refine and_congr_right fun _ => ⟨fun ⟨hh, hs⟩ k f hget g hg hgn => ?_,
    fun hall => ⟨fun f0 hf0 g hg => ?_, fun k f hk hget g hg hgn => ?_⟩⟩
  · rcases Nat.eq_zero_or_pos k with rfl | hk
    · exact hh f (List.head?_eq_getElem? ▸ hget) g hg
    · rw [crit_take hk hget]
      exact hs k f hk hget g hg hgn
  · exact hall 0 f0 (List.head?_eq_getElem? ▸ hf0) g hg (List.not_mem_nil)
  · rw [← crit_take (relv := relOf rel) (score := obj rel red rln st α β) hk hget]
    exact hall k f hget g hg hgn

/-- MAIN THEOREM: for every iteration order, the model's ranking satisfies the property. -/
theorem rank3mr_isGreedy (hnd : (keys rel).Nodup) (io : List Nat → List Nat) (hio : ∀ l, (io l).Perm l) :
    IsGreedy rel red rln st α β (rank3mr rel red rln st α β io) :=
  (isGreedy_iff_posOk ..).mpr (rank3mrF_greedy hnd io hio)

/-- every feature exactly once: the ranking is a permutation of the (distinct) keys … -/
theorem rank_perm (hnd : (keys rel).Nodup) (io : List Nat → List Nat) (hio : ∀ l, (io l).Perm l) :
    (rank3mr rel red rln st α β io).Perm (keys rel) :=
  (rank3mr_isGreedy rel red rln st α β hnd io hio).1

/-- … i.e. no feature twice, exactly the features of the relevance dictionary, `n` entries. -/
theorem rank_each_once (hnd : (keys rel).Nodup) (io : List Nat → List Nat) (hio : ∀ l, (io l).Perm l) :
    (rank3mr rel red rln st α β io).Nodup ∧
    (∀ f, f ∈ rank3mr rel red rln st α β io ↔ f ∈ keys rel) ∧
    (rank3mr rel red rln st α β io).length = rel.length := by
  have hp := rank_perm rel red rln st α β hnd io hio
  exact ⟨hp.nodup_iff.mpr hnd, fun f => hp.mem_iff, hp.length_eq.trans (List.length_map _)⟩

/-- the ranking of a non-empty dictionary starts with a feature of maximal relevance -/
theorem head_max_relevance (hnd : (keys rel).Nodup) (hne : rel ≠ []) (io : List Nat → List Nat)
    (hio : ∀ l, (io l).Perm l) :
    ∃ f0, (rank3mr rel red rln st α β io).head? = some f0 ∧ f0 ∈ keys rel ∧
      ∀ g ∈ keys rel, relOf rel g ≤ relOf rel f0 := by
  have hg := rank3mr_isGreedy rel red rln st α β hnd io hio
  have hlen := (rank_each_once rel red rln st α β hnd io hio).2.2
  cases hr : rank3mr rel red rln st α β io with
  | nil =>
    rw [hr] at hlen
    exact absurd (List.length_eq_zero_iff.mp hlen.symm) hne
  | cons f0 t =>
    rw [hr] at hg
    refine ⟨f0, rfl, hg.1.mem_iff.mp (List.mem_cons_self ..), hg.2.1 f0 rfl⟩

/-- at every later position `k ≥ 1` the feature placed there maximises the objective against the first `k` features,
among the features not yet ranked -/
theorem greedy_step (hnd : (keys rel).Nodup) (io : List Nat → List Nat) (hio : ∀ l, (io l).Perm l)
    (k f : Nat) (hk : 1 ≤ k) (hget : (rank3mr rel red rln st α β io)[k]? = some f) :
    ∀ g ∈ keys rel, g ∉ (rank3mr rel red rln st α β io).take k →
      obj rel red rln st α β ((rank3mr rel red rln st α β io).take k) g ≤
      obj rel red rln st α β ((rank3mr rel red rln st α β io).take k) f :=
  (rank3mr_isGreedy rel red rln st α β hnd io hio).2.2 k f hk hget

/-- ranks are 1..n in list order: row `i` of the returned table is `(ranking[i], i+1)` -/
theorem ranks_1_to_n (r : List Nat) :
    (rankTable r).map (·.1) = r ∧ (rankTable r).map (·.2) = List.range' 1 r.length ∧
    ∀ i (h : i < r.length), (rankTable r)[i]? = some (r[i], i + 1) := by
  have hl : r.length = (List.range' 1 r.length).length := List.length_range'.symm
  refine ⟨List.map_fst_zip (Nat.le_of_eq hl), List.map_snd_zip (Nat.le_of_eq hl.symm), fun i h => ?_⟩
  rw [rankTable, List.getElem?_zip_eq_some, List.getElem?_range' h, Nat.add_comm, Nat.one_mul]
  exact ⟨List.getElem?_eq_getElem h, rfl⟩

/-- the decidable checker the driver applies to the IMPLEMENTATION's ranking decides exactly the property -/
theorem isGreedyB_iff (r : List Nat) :
    isGreedyB rel red rln st α β r = true ↔ IsGreedy rel red rln st α β r :=
  (isGreedyBF_iff r).trans (isGreedy_iff_posOk ..).symm

/-- … and so does the whole-table checker: greedy `Feature` column and rank column `1..n` -/
theorem tableOkB_iff (tbl : List (Nat × Nat)) :
    tableOkB rel red rln st α β tbl = true ↔
      IsGreedy rel red rln st α β (tbl.map (·.1)) ∧ tbl.map (·.2) = List.range' 1 tbl.length := by
  unfold tableOkB
  rw [Bool.and_eq_true, isGreedyB_iff, beq_iff_eq]

/-- the model's table passes the checker (for every iteration order) -/
theorem tableOkB_model (hnd : (keys rel).Nodup) (io : List Nat → List Nat) (hio : ∀ l, (io l).Perm l) :
    tableOkB rel red rln st α β (rankTable (rank3mr rel red rln st α β io)) = true := by
  rw [tableOkB_iff]
  have h := ranks_1_to_n (rank3mr rel red rln st α β io)
  refine ⟨?_, ?_⟩
  · rw [h.1]; exact rank3mr_isGreedy rel red rln st α β hnd io hio
  · rw [h.2.1]; simp [rankTable]

/-- uniqueness on tie-free inputs: if a greedy ranking `r` passes the strictness checker (every maximum is strict),
it is THE greedy ranking – in particular the model returns it for every iteration order.  This is what entitles the
harness to demand `implementation = model` on tie-free inputs. -/
theorem greedy_unique_of_strict (hnd : (keys rel).Nodup) (r r' : List Nat)
    (hr : IsGreedy rel red rln st α β r) (hs : isStrictB rel red rln st α β r = true)
    (hr' : IsGreedy rel red rln st α β r') : r' = r :=
  greedy_unique hnd r r' hr.1 (isStrictBF_sound r hs) ((isGreedy_iff_posOk ..).mp hr')

theorem rank3mr_eq_of_strict (hnd : (keys rel).Nodup) (r : List Nat)
    (hr : isGreedyB rel red rln st α β r = true) (hs : isStrictB rel red rln st α β r = true)
    (io : List Nat → List Nat) (hio : ∀ l, (io l).Perm l) :
    rank3mr rel red rln st α β io = r :=
  greedy_unique_of_strict rel red rln st α β hnd r _ ((isGreedyB_iff ..).mp hr) hs
    (rank3mr_isGreedy rel red rln st α β hnd io hio)

/-- the tabulated variants the driver runs are the plain definitions -/
theorem fast_eq (N : Nat) :
    (∀ io, rank3mrFast N rel red rln st α β io = rank3mr rel red rln st α β io) ∧
    (∀ r, isGreedyBFast N rel red rln st α β r = isGreedyB rel red rln st α β r) ∧
    (∀ r, isStrictBFast N rel red rln st α β r = isStrictB rel red rln st α β r) := by
  simp only [rank3mrFast, isGreedyBFast, isStrictBFast, relT_mkTabs, objectiveT_mkTabs,
    rank3mr, isGreedyB, isStrictB, implies_true, and_self]

/-- the driver's diagnostic position exists exactly when some position fails the checker -/
theorem firstBadPos_none_iff (N : Nat) (r : List Nat) :
    firstBadPos N rel red rln st α β r = none ↔
      (List.range r.length).all (posOkB (keys rel) (relOf rel) (obj rel red rln st α β) r) = true := by
  simp only [firstBadPos, relT_mkTabs, objectiveT_mkTabs, List.find?_eq_none, List.all_eq_true, Bool.not_eq_true',
    Bool.not_eq_false]

/-- the driver's `check` operation answers `ok` exactly when the table checker accepts -/
theorem checkTable_ok_iff (N : Nat) (tbl : List (Nat × Nat)) :
    checkTable N rel red rln st α β tbl = .ok ↔ tableOkB rel red rln st α β tbl = true := by
  rw [tableOkB, isGreedyB, isGreedyBF, Bool.and_eq_true, Bool.and_eq_true, ← firstBadPos_none_iff rel red rln st α β N,
    checkTable]
  split
  · split
    · simp [*]
    · split <;> simp [*]
  · simp [*]

/-- so the theorems above apply to an iteration order replayed from a table of observed orders -/
theorem shippedOrder_perm (orders : List (List Nat)) (l : List Nat) : (shippedOrder orders l).Perm l := by
  unfold shippedOrder
  split
  · rename_i o ho; exact List.isPerm_iff.mp (List.find?_some ho :)
  · exact List.Perm.refl _

/-! ### non-vacuity: the hypotheses are satisfiable and the definitions compute -/

example : ∃ (rel : RelDict) (io : List Nat → List Nat), rel ≠ [] ∧ (keys rel).Nodup ∧ ∀ l, (io l).Perm l :=
  ⟨[(0, 1), (1, 3), (2, 2)], List.reverse, List.cons_ne_nil _ _, by decide, fun l => List.reverse_perm l⟩

/-- three features; feature 1 has the highest relevance; against [1], feature 2 is penalised by redundancy 5 -/
example : rank3mr [(0, 1), (1, 3), (2, 2)] [((1, 2), 5)] [] .sum 1 1 id = [1, 0, 2] := by decide +kernel
example : rank3mr [(0, 1), (1, 3), (2, 2)] [((1, 2), 5)] [] .sum 0 1 id = [1, 2, 0] := by decide +kernel
example : isGreedyB [(0, 1), (1, 3), (2, 2)] [((1, 2), 5)] [] .sum 1 1 [1, 2, 0] = false := by decide +kernel
/-- a tie (features 0 and 2 have equal relevance and no pair scores): both orders are greedy, neither is strict -/
example : isGreedyB [(0, 1), (1, 3), (2, 1)] [] [] .median 1 1 [1, 0, 2] = true ∧
    isGreedyB [(0, 1), (1, 3), (2, 1)] [] [] .median 1 1 [1, 2, 0] = true ∧
    isStrictB [(0, 1), (1, 3), (2, 1)] [] [] .median 1 1 [1, 0, 2] = false := by decide +kernel
example : medianL [3, 1, 2, 10] = 5 / 2 ∧ medianL [3, 1, 2] = 2 ∧ meanL [1, 2] = 3 / 2 := by decide +kernel

end C17
