import OutrankModel.Model.C14
import OutrankModel.Lemmas.HLL
/-!
# C14 – cardinality sketch: exact while warm, duplicate-blind, order-independent
The "within 2 % up to 2^21" clause is a statement about xxh32's distribution (false for adversarial values): measured by the
harness, not a theorem. Everything below holds for EVERY hash.
-/
namespace C14
variable {V : Type} [DecidableEq V]

/-- the hash is well-formed: buckets are register indices and every hashed value leaves a non-zero register -/
def Cfg.WF (c : Cfg V) : Prop := (∀ v, c.bucket v < c.m) ∧ (∀ v, 0 < c.rho v)

/-- main theorem: after ANY insertion sequence the reported size is the stateless `spec` of the sequence. -/
theorem len_run_eq_spec (c : Cfg V) (hc : c.WF) (est : Nat → Nat) (seq : List V) :
    len est (run c seq) = spec c est seq :=
  (inv_run c seq).len_eq_spec hc.1 hc.2 est

/-- the phase is determined by the number of distinct values alone -/
theorem isSketch_iff (c : Cfg V) (seq : List V) : isSketch (run c seq) = true ↔ c.W < seq.eraseDups.length :=
  (inv_run c seq).isSketch_iff

/-- C14-1: exact while the number of distinct values is at most the warm-up capacity. -/
theorem exact_warm (c : Cfg V) (hc : c.WF) (est : Nat → Nat) (seq : List V) (h : seq.eraseDups.length ≤ c.W) :
    len est (run c seq) = seq.eraseDups.length := by
  rw [len_run_eq_spec c hc, spec_of_le est h]

/-- C14-2: re-adding a value already seen never changes the size (both phases, also exactly at the boundary). -/
theorem dup_blind (c : Cfg V) (hc : c.WF) (est : Nat → Nat) (seq : List V) (v : V) (hv : v ∈ seq) :
    len est (run c (seq ++ [v])) = len est (run c seq) :=
  len_run_congr c hc.1 hc.2 est fun w => by
    rw [List.mem_append, List.mem_singleton]
    exact ⟨fun h => h.elim id fun e => e ▸ hv, Or.inl⟩

/-- C14-3: the size does not depend on the order of insertion (both phases). -/
theorem order_indep (c : Cfg V) (hc : c.WF) (est : Nat → Nat) (seq seq' : List V) (h : seq.Perm seq') :
    len est (run c seq) = len est (run c seq') :=
  len_run_congr c hc.1 hc.2 est fun _ => h.mem_iff

/-- C14-4: beyond the warm-up capacity the size is the estimate of the number of registers left empty by the value set;
at most `distinct` registers are occupied. -/
theorem estimate_occupancy (c : Cfg V) (hc : c.WF) (est : Nat → Nat) (seq : List V) (h : c.W < seq.eraseDups.length) :
    len est (run c seq) = est (c.m - (seq.map c.bucket).eraseDups.length) ∧
    (seq.map c.bucket).eraseDups.length ≤ seq.eraseDups.length := by
  refine ⟨?_, ListAux.map_eraseDups_length_le c.bucket seq⟩
  rw [len_run_eq_spec c hc, spec_of_lt est h]

/-- the two clauses of `Cfg.WF` for the driver's configuration when p ≤ 32: the bucket clause for all naturals, the `rho` clause
for 32-bit digests only (`rho x = 0` for large `x`, so `(digestCfg p W).WF` does not hold over all of `Nat`) -/
theorem digestCfg_bucket (p W x : Nat) : (digestCfg p W).bucket x < (digestCfg p W).m :=
  Nat.mod_lt _ (Nat.two_pow_pos p)
theorem digestCfg_rho (p W x : Nat) (hp : p ≤ 32) (hx : x < 2 ^ 32) : 0 < (digestCfg p W).rho x := by
  have h1 : x / 2 ^ p < 2 ^ (32 - p) := by
    rw [Nat.div_lt_iff_lt_mul (Nat.two_pow_pos p), ← Nat.pow_add, Nat.sub_add_cancel hp]
    exact hx
  exact Nat.sub_pos_of_lt (Nat.lt_of_le_of_lt (bitLength_le h1) (Nat.sub_lt_sub_right hp (by decide)))

/-- C14-5: the code before the repair (switch on ANY call that finds the warm set full, dropping the triggering value)
is not duplicate-blind: with exactly W distinct values, re-adding one flips the size. Modelled inline. -/
def oldAdd (c : Cfg V) : Sk V → V → Sk V
  | .warm s, v =>
    if s.length < c.W then .warm (if v ∈ s then s else s ++ [v])
    else .regs (convert c s)
  | .regs M, v => .regs (update c M v)

theorem old_boundary_dup :
    ∃ (c : Cfg Nat) (est : Nat → Nat) (seq : List Nat) (v : Nat), c.WF ∧ v ∈ seq ∧
      len est ((seq ++ [v]).foldl (oldAdd c) (.warm [])) ≠ len est (seq.foldl (oldAdd c) (.warm [])) := by
  refine ⟨{ m := 4, W := 2, bucket := fun x => x % 4, rho := fun _ => 1 }, id, [5, 9], 5,
    ⟨fun v => Nat.mod_lt v (by decide), fun _ => Nat.one_pos⟩, by decide +kernel, by decide +kernel⟩

example : (digestCfg 2 2).WF → len id (run (digestCfg 2 2) [5, 9, 5, 6]) = 2 := by
  intro _; decide +kernel

end C14
