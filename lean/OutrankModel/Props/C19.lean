import OutrankModel.Lemmas.C19
/-!
# C19 – synthetic categorical data respects its declared shape, domains and seed

Statements about the definitions the driver executes (`Model/C19.lean`), for EVERY numpy generator whose draws are
well-formed (`Rng.WF`: a no-replacement draw is duplicate-free, of the requested size and inside the population; a
weighted draw has the requested size and stays inside the domain; a shuffle is a permutation) – and the generator the
driver actually runs (the recorded tape of the real draws) is one of them (`tape_wf`).  Core Lean only.

`generateData R st a = .ok (fs, st')`: `fs` are the columns of the returned array in order, each with the domain it was
drawn from.  `a.plan` = (attributes of the generated features in order, overflow flag) is the structure interpreter.
-/
namespace C19
variable {σ : Type}

/-- Characterisation: a successful `generate_data` generated exactly the planned features, none outside the array, each
satisfying every per-feature clause (`FeatOK`: declared domain, length, values inside the domain, representation). -/
theorem generateData_spec (R : Rng σ) (hR : R.WF) (st st' : σ) (a : Args) (fs : List Feat)
    (h : generateData R st a = .ok (fs, st')) :
    a.plan.2 = false ∧ All2 (FeatOK a.params) a.plan.1 fs := by
  simp only [generateData] at h
  split at h
  · cases h
  · split at h <;> cases h
    exact ⟨Bool.eq_false_iff.mpr ‹_›, genAll_ok hR ‹_›⟩

theorem plan_length (a : Args) (h : a.plan.2 = false) : a.plan.1.length = a.nFeatures := by
  unfold Args.plan at h ⊢
  cases hs : a.struct with
  | none => simp
  | some s =>
    simp only [hs] at h ⊢
    exact place_no_overflow_length h

/-- **shape**: exactly `n_features` columns of exactly `n_samples` values; as rows: `n_samples` rows of `n_features`. -/
theorem shape (R : Rng σ) (hR : R.WF) (st st' : σ) (a : Args) (fs : List Feat)
    (h : generateData R st a = .ok (fs, st')) :
    fs.length = a.nFeatures ∧ (∀ f ∈ fs, f.col.length = a.nSamples) ∧
    (rows a.nSamples fs).length = a.nSamples ∧ ∀ r ∈ rows a.nSamples fs, r.length = a.nFeatures := by
  obtain ⟨h1, h2⟩ := generateData_spec R hR st st' a fs h
  have hlen : fs.length = a.nFeatures := by rw [← h2.length_eq, plan_length a h1]
  have hcols : ∀ f ∈ fs, f.col.length = a.nSamples := fun f hf =>
    have ⟨_, _, hok⟩ := h2.of_mem_right hf
    hok.2.1
  refine ⟨hlen, hcols, by simp [rows], fun r hr => ?_⟩
  obtain ⟨i, hi, rfl⟩ := List.mem_map.mp hr
  rw [← hlen, List.filterMap_length_eq_length]
  exact fun f hf => by simp [hcols f hf, List.mem_range.mp hi]

/-- **domain**: column `j` was generated from the `j`-th planned attributes; its domain is the declared one (default
range `[low, low+cardinality)`, the explicit list, or – random values – a duplicate-free draw of the requested cardinality
inside `[low, high]`) and every value of the column is the int32 image of a domain value. -/
theorem domain (R : Rng σ) (hR : R.WF) (st st' : σ) (a : Args) (fs : List Feat)
    (h : generateData R st a = .ok (fs, st')) (j : Nat) (f : Feat) (hf : fs[j]? = some f) :
    ∃ attr, a.plan.1[j]? = some attr ∧ DomDeclared a.params attr f.dom ∧ ∀ v ∈ f.col, v ∈ f.dom.map wrap32 := by
  obtain ⟨_, h2⟩ := generateData_spec R hR st st' a fs h
  obtain ⟨attr, hattr, hok⟩ := h2.get_right hf
  exact ⟨attr, hattr, hok.1, hok.2.2.1⟩

/-- for a domain of 32-bit integers the int32 conversion is the identity: values ∈ domain -/
theorem domain_int32 (f : Feat) (h : ∀ v ∈ f.col, v ∈ f.dom.map wrap32)
    (h32 : ∀ v ∈ f.dom, -2147483648 ≤ v ∧ v < 2147483648) : ∀ v ∈ f.col, v ∈ f.dom := by
  intro v hv
  obtain ⟨x, hx, rfl⟩ := List.mem_map.mp (h v hv)
  rw [wrap32_id (h32 x hx).1 (h32 x hx).2]; exact hx

/-- **declared positions**: for strictly increasing, in-range declared indices the interpreter never overflows and column
`j` gets the attributes declared for `j`, every other column the default (`expectedAttr` is a plain lookup). -/
theorem declared_positions (a : Args) (s : List Entry) (hs : a.struct = some s)
    (hinc : (flatten s).Pairwise (fun d e => d.1 < e.1)) (hrange : ∀ d ∈ flatten s, d.1 < a.nFeatures) :
    a.plan.2 = false ∧ ∀ j, j < a.nFeatures → a.plan.1[j]? = some (expectedAttr a.dflt (flatten s) j) := by
  unfold Args.plan
  rw [hs]
  exact place_inc 0 (fun _ _ => Nat.zero_le _) hrange hinc

/-- … in particular each declared `(index, attributes)` sits at its index -/
theorem declared_at_index (a : Args) (s : List Entry) (hs : a.struct = some s)
    (hinc : (flatten s).Pairwise (fun d e => d.1 < e.1)) (hrange : ∀ d ∈ flatten s, d.1 < a.nFeatures)
    (d : Nat × Attr) (hd : d ∈ flatten s) : a.plan.1[d.1]? = some d.2 := by
  rw [(declared_positions a s hs hinc hrange).2 d.1 (hrange d hd), expectedAttr_of_mem a.dflt hinc hd]

/-- the precondition is needed – the code never looks back: the decreasing structure `[(3, A), (1, B)]` on 5 columns puts `B`
at column 4, not 1 -/
theorem declared_positions_needs_increasing (A B D : Attr) :
    place 5 D 0 [(3, A), (1, B)] = ([D, D, D, A, B], false) := rfl

/-- a declared index outside the array: the feature is generated and its store raises IndexError -/
theorem out_of_range_overflows (A D : Attr) : (place 3 D 0 [(5, A)]).2 = true := rfl

/-- **ensure_rep**: with representation enforced every domain value occurs whenever `|domain| ≤ n_samples`
(equality included – the boundary of defect F11). -/
theorem ensure_rep (R : Rng σ) (hR : R.WF) (st st' : σ) (a : Args) (fs : List Feat)
    (h : generateData R st a = .ok (fs, st')) (hrep : a.ensureRep = true) (f : Feat) (hf : f ∈ fs)
    (hsize : f.dom.length ≤ a.nSamples) : ∀ v ∈ f.dom, wrap32 v ∈ f.col := by
  obtain ⟨_, h2⟩ := generateData_spec R hR st st' a fs h
  obtain ⟨_, _, hok⟩ := h2.of_mem_right hf
  exact hok.2.2.2 hrep hsize

/-- the same clauses for a direct `_generate_feature` call -/
theorem generate_feature_spec (R : Rng σ) (hR : R.WF) (P : Params) (a : Attr) (st st' : σ) (f : Feat)
    (h : genFeature R P a st = .ok (f, st')) : FeatOK P a f := genFeature_ok hR h

/-- **seed**: the result (data AND generator state afterwards) does not depend on the generator state before the call:
same seed and arguments ⇒ same data set. -/
theorem seed_resets (R : Rng σ) (st st' : σ) (a : Args) : generateData R st a = generateData R st' a := rfl

/-- the generator the driver runs (recorded draws of the real call, sanitised) is well-formed, so every theorem above
applies to the executed model as is -/
theorem tape_wf (tape : List Ev) : (tapeRng tape).WF := tapeRng_wf tape

/-- fewer than 31 features: `sample[:, 30]` raises IndexError (the guard of `naive_label`) -/
theorem naive_guard (nf : Nat) (raw : List (List Int)) (h : nf ≤ 30) : naive nf raw = .error .indexError :=
  if_pos h

/-- **naive_label / naive_shape**: for every size and `num_features > 30`, and ANY drawn matrix of that shape: the label of row
`i` is `label (raw i 30)` (1 iff the raw needle value is ≥ 40) – a function of the needle value alone – and the returned
sample is the raw matrix with column 30 overwritten by the label (`target` is a view), all other cells untouched. -/
theorem naive_label (nf : Nat) (raw : List (List Int)) (hnf : 30 < nf) (hshape : ∀ row ∈ raw, row.length = nf) :
    ∃ sample target, naive nf raw = .ok (sample, target) ∧ sample.length = raw.length ∧ target.length = raw.length ∧
      ∀ (i : Nat) (row : List Int), raw[i]? = some row → ∃ v, row[30]? = some v ∧ target[i]? = some (label v) ∧
        sample[i]? = some (row.set 30 (label v)) := by
  refine ⟨_, _, naive_eq hnf hshape, List.length_map _, List.length_map _, fun i row hi => ?_⟩
  have h30 : 30 < row.length := hshape row (List.mem_of_getElem? hi) ▸ hnf
  have h30 := List.getElem?_eq_getElem h30
  exact ⟨_, h30, by rw [List.getElem?_map, hi, Option.map_some, h30, Option.getD_some],
    by rw [List.getElem?_map, hi, Option.map_some, h30, Option.getD_some]⟩

/-- rows keep their length: `size × num_features` -/
theorem naive_shape (nf : Nat) (raw : List (List Int)) (hnf : 30 < nf) (hshape : ∀ row ∈ raw, row.length = nf)
    (sample : List (List Int)) (target : List Int) (h : naive nf raw = .ok (sample, target)) :
    sample.length = raw.length ∧ target.length = raw.length ∧ ∀ row ∈ sample, row.length = nf := by
  rw [naive_eq hnf hshape] at h
  cases h
  refine ⟨List.length_map _, List.length_map _, fun row hr => ?_⟩
  obtain ⟨r, hr', rfl⟩ := List.mem_map.mp hr
  rw [List.length_set, hshape r hr']

/-- the decidable check the driver applies to the IMPLEMENTATION's `(sample, target)` holds of the model's result -/
theorem naive_meets_spec (nf : Nat) (raw : List (List Int)) (hnf : 30 < nf) (hshape : ∀ row ∈ raw, row.length = nf)
    (sample : List (List Int)) (target : List Int) (h : naive nf raw = .ok (sample, target)) :
    naiveSpecB nf raw sample target = true := by
  rw [naive_eq hnf hshape] at h
  cases h
  simp only [naiveSpecB, decide_eq_true hnf, beq_self_eq_true, Bool.and_true, Bool.true_and, List.all_eq_true, beq_iff_eq]
  exact hshape

/-- a generator that always answers with the canonical draws is well-formed … -/
def constRng : Rng Unit where
  seed _ := ()
  choiceNoRep _ lo _ k := (arange lo k, ())
  randint _ _ := (0, ())
  choiceP _ dom k := (List.replicate k (dom.headD 0), ())
  shuffle _ n := (List.range n, ())

example : constRng.WF := by
  have := tapeRng_wf []
  exact ⟨fun _ lo pop k hk => this.cnr ⟨[], false⟩ lo pop k hk, fun _ n hn => this.ri ⟨[], false⟩ n hn,
    fun _ dom k h => this.cp ⟨[], false⟩ dom k h, fun _ n => this.sh ⟨[], false⟩ n⟩

/-- … and `generate_data` succeeds on it with a structure mixing all entry kinds, at the `ensure_rep` boundary
(`|domain| = n_samples = 3`) -/
example : (generateData constRng () ⟨4, 3, 3, some [.many [0, 2] (.freq [5, 6]), .single 3 (.vals [9, 10, 11])],
    true, false, 0, 1000, 42⟩).toOption.map (·.1) =
    some [⟨[5, 6], [5, 5, 6]⟩, ⟨[0, 1, 2], [0, 1, 2]⟩, ⟨[5, 6], [5, 5, 6]⟩, ⟨[9, 10, 11], [9, 10, 11]⟩] := by decide +kernel

example : (naive 31 [List.replicate 30 10 ++ [39], List.replicate 30 10 ++ [40]]).toOption =
    some ([List.replicate 30 10 ++ [0], List.replicate 30 10 ++ [1]], [0, 1]) := by decide +kernel

end C19
