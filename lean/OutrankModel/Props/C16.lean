import OutrankModel.Model.C16
import OutrankModel.Lemmas.Parsers
/-!
# C16 – line parsers keep every field in its column and never mis-align

All theorems are about the definitions of `Model/C16.lean` that the driver executes (`csvParse`, `tsvParse`, `vwParse`,
`namespaceMap`, `ingest`) and hold for ALL rows / lines / files of the stated shape (any width, any cell length, any
Unicode content).  Strings are `List Char`; `isNL c` ⇔ c ∈ {'\n', '\r'}; `isPySpace` = Python's `str.isspace` set.
`term` is the line terminator: ANY string of '\n' / '\r' characters (so "\n", "\r\n" and "" are all covered).
Left out of the model: `csv.field_size_limit()` (131072 characters per field by default; CPython's reader raises above it).
-/
namespace C16

/-! ## (1) CSV: quoted fields may contain delimiters and quotes; every cell comes back unmodified -/

/-- the round trip over explicit (choice, cell) pairs: the ONLY rendering that does not come back is the bare empty line for `[""]` -/
theorem csv_roundtrip_any_choice (ps : List (Bool × Str)) (hcells : ∀ x ∈ ps, ∀ c ∈ x.2, isNL c = false)
    (hq : ps ≠ [(false, [])]) (term : Str) (hterm : ∀ c ∈ term, isNL c = true) :
    csvParse (renderPairs ps ++ term) = some (ps.map Prod.snd) := by
  have key : stepEOL (run ⟨.sr, [], []⟩ (renderPairs ps ++ term)) = ⟨.sr, [], ps.map Prod.snd⟩ := by
    cases ps with
    | nil => exact run_term (p := ⟨.sr, [], []⟩) term hterm rfl fun c hc => by simp [stepC, hc]
    | cons a r => exact run_row (Or.inl rfl) a r (Or.inr hq) [] hcells term hterm
  simp [csvParse, key, finish]

/-- `parse ∘ render = id` for every row (any number of cells, empty cells anywhere, commas / quotes / any Unicode inside)
and EVERY quoting choice of the writer (`quote i` = "cell i is written quoted"; cells that need quotes, and the one-cell
row `[""]`, are quoted regardless). -/
theorem csv_roundtrip (quote : Nat → Bool) (row : List Str) (hcells : ∀ x ∈ row, ∀ c ∈ x, isNL c = false)
    (term : Str) (hterm : ∀ c ∈ term, isNL c = true) :
    csvParse (renderRow quote row ++ term) = some row := by
  have hs := choices_snd quote row
  -- the one-cell row `[""]` is written quoted
  have hq : choices quote row ≠ [(false, [])] := fun h0 => by
    have h1 : row = [[]] := by rw [← hs, h0]; rfl
    subst h1
    simp [choices] at h0
  have h := csv_roundtrip_any_choice (choices quote row) (fun x hx => hcells x.2 (hs ▸ List.mem_map_of_mem hx)) hq term hterm
  rwa [hs] at h

theorem csv_roundtrip_newline (quote : Nat → Bool) (row : List Str) (hcells : ∀ x ∈ row, ∀ c ∈ x, isNL c = false) :
    csvParse (renderRow quote row ++ ['\n']) = some row :=
  csv_roundtrip quote row hcells ['\n'] (by decide)

theorem csv_roundtrip_no_terminator (quote : Nat → Bool) (row : List Str) (hcells : ∀ x ∈ row, ∀ c ∈ x, isNL c = false) :
    csvParse (renderRow quote row) = some row := by
  simpa using csv_roundtrip quote row hcells [] (by simp)

/-- on a line as text-mode file iteration produces it (no line break except in its terminator) the reader never raises
(`_csv.Error` "new-line character seen in unquoted field" needs a character after a line break) -/
theorem csv_never_errors_on_a_line (body term : Str) (hb : ∀ c ∈ body, isNL c = false) (ht : ∀ c ∈ term, isNL c = true) :
    csvParse (body ++ term) ≠ none := by
  -- over the body the control state keeps out of `eat` and `err`; over the terminator, and at the end of the line, out of `err`
  have h1 := run_invariant (I := fun p => p.st ≠ .eat ∧ p.st ≠ .err) (fun _ _ => stepC_noNL) body ⟨.sr, [], []⟩ hb
    ⟨nofun, nofun⟩
  have h2 := stepEOL_ne_err (run_invariant (I := fun p => p.st ≠ .err) (fun _ _ => stepC_NL) term _ ht h1.2)
  simp [csvParse, run_append, h2]

example : csvParse (renderRow (fun i => i == 2) ["".toList, "a,\"b".toList, " x ".toList, "".toList] ++ "\r\n".toList)
    = some ["".toList, "a,\"b".toList, " x ".toList, "".toList] := by
  -- the literal's characters without kernel decoding (BUILDING.md, "String literals")
  rw [String.toList_ofList, String.toList_ofList, String.toList_ofList, String.toList_ofList]
  exact csv_roundtrip _ _ (by decide +kernel) _ (by decide +kernel)
example : renderRow (fun _ => false) [[]] = "\"\"".toList := by decide +kernel

/-! ## (2) tab-separated: fields may be empty anywhere in the row -/

/-- for every non-empty row of cells without the delimiter and line breaks (empty cells first, last, everywhere; edge
whitespace of any kind) the repaired parser returns exactly the cells -/
theorem tsv_roundtrip (d : Char) (hd : isNL d = false) (row : List Str) (hne : row ≠ [])
    (hcells : ∀ x ∈ row, ∀ c ∈ x, c ≠ d ∧ isNL c = false) (term : Str) (hterm : ∀ c ∈ term, isNL c = true) :
    tsvParse d (joinSep [d] row ++ term) = row := by
  unfold tsvParse stripEOL
  rw [rstripP_append_all _ _ _ hterm, rstripP_id]
  · exact splitOn_joinSep d row hne fun x hx c hc => (hcells x hx c hc).1
  · intro c hc
    rcases mem_joinSep (List.mem_of_getLast? hc) with h | ⟨x, hx, hcx⟩
    · rwa [List.mem_singleton.mp h]
    · exact (hcells x hx c hcx).2

theorem tsv_roundtrip_tab (row : List Str) (hne : row ≠ [])
    (hcells : ∀ x ∈ row, ∀ c ∈ x, c ≠ '\t' ∧ isNL c = false) :
    tsvParse '\t' (joinSep ['\t'] row ++ ['\n']) = row :=
  tsv_roundtrip '\t' (by decide) row hne hcells ['\n'] (by decide)

/-- F10: the code before the repair (`line.strip().split('\t')`) loses the empty last cell, an empty first cell and
edge whitespace -/
theorem old_tsv_strips :
    oldTsvParse '\t' "a\tb\t\n".toList = ["a".toList, "b".toList] ∧
    oldTsvParse '\t' "\ta\tb\n".toList = ["a".toList, "b".toList] ∧
    oldTsvParse '\t' " a\tb \n".toList = ["a".toList, "b".toList] := by
  rw [String.toList_ofList, String.toList_ofList, String.toList_ofList, String.toList_ofList, String.toList_ofList]
  decide +kernel

example : tsvParse '\t' "\ta\t \t\n".toList = ["".toList, "a".toList, " ".toList, "".toList] := by
  rw [String.toList_ofList, String.toList_ofList, String.toList_ofList, String.toList_ofList]
  exact tsv_roundtrip_tab [[], ['a'], [' '], []] (by decide) (by decide)

/-! ## (3) VW: label from the first token, every namespace's tokens in the namespace's column, absent ↦ missing -/

/-- Characterisation: on EVERY rendered VW line (label part `lab` = label followed by optional importance/tag tokens;
namespaces `es`, each with any number of spaces before its bar and before each token; arbitrary whitespace `lead`/`trail`
around the line, e.g. the terminator) the parser returns `vwSpec`: the label, then for every header column the value
`'-'.join(tokens)` of the LAST namespace on the line that the namespace map sends to that column, `none` when there is
no such namespace; unless `include_namespace_info`, the first TWO CHARACTERS of every present value are dropped
(`dropPrefix`: `x[2:]` on the joined string – i.e. the prefix of the first token only, exactly as the code does). -/
theorem vw_parse_render (nsmap : List (Str × Str)) (header : List Str) (incl : Bool) (lab : VwEntry) (es : List VwEntry)
    (lead trail : Str) (hlead : ∀ c ∈ lead, isPySpace c = true) (htrail : ∀ c ∈ trail, isPySpace c = true)
    (hlab : lab.WF) (hes : ∀ e ∈ es, e.WF) :
    vwParse nsmap header incl (lead ++ vwRender lab es ++ trail) =
      vwSpec nsmap header incl lab.ns (es.map fun e => (e.ns, e.toks.map Prod.snd)) := by
  obtain ⟨k, T, hp, hT⟩ := splitOn_bar lab.body es (body_no_bar hlab) hes
  unfold vwParse
  rw [pyStrip_core lead _ trail hlead htrail (render_edgeOK lab es hlab hes), vwRender, hp]
  simp only
  rw [label_of_part hlab k, vwHash_eq, hT, vwSpec_eq, List.map_map]
  rfl

/-- the label is the first token of the line -/
theorem vw_label (nsmap : List (Str × Str)) (header : List Str) (incl : Bool) (lab : VwEntry) (es : List VwEntry)
    (lead trail : Str) (hlead : ∀ c ∈ lead, isPySpace c = true) (htrail : ∀ c ∈ trail, isPySpace c = true)
    (hlab : lab.WF) (hes : ∀ e ∈ es, e.WF) :
    (vwParse nsmap header incl (lead ++ vwRender lab es ++ trail))[0]? = some (some lab.ns) := by
  rw [vw_parse_render nsmap header incl lab es lead trail hlead htrail hlab hes]; rfl

/-- the parsed line always has the width of the header (no VW line can be shifted or rejected for its arity) -/
theorem vw_width (nsmap : List (Str × Str)) (header : List Str) (hh : header ≠ []) (incl : Bool) (lab : VwEntry)
    (es : List VwEntry) (lead trail : Str) (hlead : ∀ c ∈ lead, isPySpace c = true)
    (htrail : ∀ c ∈ trail, isPySpace c = true) (hlab : lab.WF) (hes : ∀ e ∈ es, e.WF) :
    (vwParse nsmap header incl (lead ++ vwRender lab es ++ trail)).length = header.length := by
  rw [vw_parse_render nsmap header incl lab es lead trail hlead htrail hlab hes]
  exact vwSpec_length _ _ _ _ _ hh

/-- alignment: if namespace `e` of the line maps to column `col`, which stands at position `i + 1` of the header, and no
other namespace of the line maps to `col`, then position `i + 1` of the result holds `e`'s tokens joined by "-"
(minus two characters unless `include_namespace_info`) -/
theorem vw_alignment (nsmap : List (Str × Str)) (header : List Str) (incl : Bool) (lab : VwEntry) (es : List VwEntry)
    (lead trail : Str) (hlead : ∀ c ∈ lead, isPySpace c = true) (htrail : ∀ c ∈ trail, isPySpace c = true)
    (hlab : lab.WF) (hes : ∀ e ∈ es, e.WF)
    (i : Nat) (col : Str) (hi : header.tail[i]? = some col) (e : VwEntry) (he : e ∈ es)
    (hmap : lookupStr e.ns nsmap = some col)
    (hdistinct : ∀ e' ∈ es, lookupStr e'.ns nsmap = some col → e' = e) :
    (vwParse nsmap header incl (lead ++ vwRender lab es ++ trail))[i + 1]? =
      some (some (if incl then joinSep ['-'] (e.toks.map Prod.snd) else (joinSep ['-'] (e.toks.map Prod.snd)).drop 2)) := by
  -- the last namespace mapped to `col` (`vwSpec_col`) exists, since `e` is one, and then is `e`
  rw [vw_parse_render nsmap header incl lab es lead trail hlead htrail hlab hes, vwSpec_col _ _ _ _ _ i col hi,
    ← List.map_reverse, List.find?_map]
  cases hf : es.reverse.find? _ with
  | none => exact absurd hmap (by simpa using List.find?_eq_none.mp hf e (List.mem_reverse.mpr he))
  | some e' =>
    rw [hdistinct e' (List.mem_reverse.mp (List.mem_of_find?_eq_some hf)) (by simpa using List.find?_some hf)]
    cases incl <;> rfl

/-- a header column to which no namespace of the line maps is reported as missing (`None`) -/
theorem vw_absent (nsmap : List (Str × Str)) (header : List Str) (incl : Bool) (lab : VwEntry) (es : List VwEntry)
    (lead trail : Str) (hlead : ∀ c ∈ lead, isPySpace c = true) (htrail : ∀ c ∈ trail, isPySpace c = true)
    (hlab : lab.WF) (hes : ∀ e ∈ es, e.WF)
    (i : Nat) (col : Str) (hi : header.tail[i]? = some col) (habs : ∀ e ∈ es, lookupStr e.ns nsmap ≠ some col) :
    (vwParse nsmap header incl (lead ++ vwRender lab es ++ trail))[i + 1]? = some none := by
  rw [vw_parse_render nsmap header incl lab es lead trail hlead htrail hlab hes, vwSpec_col _ _ _ _ _ i col hi,
    List.find?_eq_none.mpr (by simpa only [List.mem_reverse, List.forall_mem_map, beq_iff_eq] using habs)]
  cases incl <;> rfl

example :
    let nsmap := [("a".toList, "fa".toList), ("b".toList, "fb".toList), ("c".toList, "fc".toList)]
    let header := ["label".toList, "fa".toList, "fb".toList, "fc".toList]
    let lab : VwEntry := ⟨0, "1".toList, []⟩
    let es : List VwEntry := [⟨1, "a".toList, [(0, "a_x".toList), (1, "a_y".toList)]⟩, ⟨0, "c".toList, [(0, "c_1".toList)]⟩]
    (lab.WF ∧ ∀ e ∈ es, e.WF) ∧
    vwParse nsmap header false (vwRender lab es ++ ['\n']) = [some "1".toList, some "x-a_y".toList, none, some "1".toList] := by
  decide +kernel

/-! ## (4) a line with the wrong number of fields is rejected as a whole -/

/-- the field-count test of the streaming loop, for ANY parser: a parsed line whose length differs from the header's
changes no batch (only the invalid-line counter) -/
theorem wrong_arity_rejected {α : Type} (parse : Str → List α) (ncols : Nat) (st : List (List α) × Nat) (line : Str)
    (h : (parse line).length ≠ ncols) : ingest parse ncols st line = (st.1, st.2 + 1) := by
  simp [ingest, h]

/-- … and a parsed line of the right length is appended as it is (never truncated, padded or shifted) -/
theorem right_arity_kept {α : Type} (parse : Str → List α) (ncols : Nat) (st : List (List α) × Nat) (line : Str)
    (h : (parse line).length = ncols) : ingest parse ncols st line = (st.1 ++ [parse line], st.2) := by
  simp [ingest, h]

/-- over a whole file: the rows that enter mini-batches are exactly the parsed lines of header width, unchanged and in
order; every other line is counted as invalid -/
theorem batch_rows {α : Type} (parse : Str → List α) (ncols : Nat) (lines : List Str) :
    ingestAll parse ncols lines =
      ((lines.map parse).filter (fun r => r.length == ncols),
       ((lines.map parse).filter (fun r => !(r.length == ncols))).length) := by
  simpa [ingestAll] using ingest_fold parse ncols lines ([], 0)

theorem batch_rows_width {α : Type} (parse : Str → List α) (ncols : Nat) (lines : List Str) :
    ∀ r ∈ (ingestAll parse ncols lines).1, r.length = ncols := by
  rw [batch_rows]
  intro r hr
  simpa using (List.mem_filter.mp hr).2

/-- end to end for CSV files: of a table whose rows are written with arbitrary quoting choices, exactly the rows of
header width enter the batches, cell for cell; rows of any other width are dropped whole -/
theorem csv_table_enters_batches (ncols : Nat) (table : List (List Str)) (quote : Nat → Nat → Bool)
    (hcells : ∀ row ∈ table, ∀ x ∈ row, ∀ c ∈ x, isNL c = false) :
    (ingestAll csvParseD ncols (table.zipIdx.map fun (row, k) => renderRow (quote k) row ++ ['\n'])).1 =
      table.filter (fun r => r.length == ncols) := by
  rw [rendered_enter_batches csvParseD _ Prod.fst ncols, List.zipIdx_map_fst]
  intro p hp
  have hmem : p.1 ∈ table := List.zipIdx_map_fst 0 table ▸ List.mem_map_of_mem hp
  simp [csvParseD, csv_roundtrip_newline (quote p.2) p.1 (hcells p.1 hmem)]

/-- the same for tab-separated files (rows are non-empty lists of cells) -/
theorem tsv_table_enters_batches (ncols : Nat) (table : List (List Str)) (hne : ∀ row ∈ table, row ≠ [])
    (hcells : ∀ row ∈ table, ∀ x ∈ row, ∀ c ∈ x, c ≠ '\t' ∧ isNL c = false) :
    (ingestAll (tsvParse '\t') ncols (table.map fun row => joinSep ['\t'] row ++ ['\n'])).1 =
      table.filter (fun r => r.length == ncols) := by
  rw [rendered_enter_batches (tsvParse '\t') _ id ncols, List.map_id]
  exact fun row hrow => tsv_roundtrip_tab row (hne row hrow) (hcells row hrow)

example : (ingestAll csvParseD 2 ["a,b\n".toList, "a,b,c\n".toList, "a\n".toList, ",\"x,y\"\n".toList]) =
    ([["a".toList, "b".toList], ["".toList, "x,y".toList]], 2) := by
  rw [String.toList_ofList, String.toList_ofList, String.toList_ofList, String.toList_ofList, String.toList_ofList,
    String.toList_ofList, String.toList_ofList, String.toList_ofList]
  decide +kernel

/-! ## (5) the namespace map yields the declared id → feature mapping and the float-typed features -/

/-- a file of declared entries (`id,feature,type` or `id,feature`, one per line) is read back as `nsSpec`: the dict obtained
by assigning `map[id] = feature` entry by entry, and the features whose declared type is exactly `f32`.
Preconditions (`NsEntry.WF`): no comma inside a field, no whitespace character at either end of a line, and no `_` in the
id of a TWO-field line – the code routes such a line into the three-field unpacking, which raises, and skips it. -/
theorem namespace_map_spec (es : List NsEntry) (hes : ∀ e ∈ es, e.WF) (hnb : ∀ e ∈ es, e.NoBreak) :
    namespaceMap (es.flatMap fun e => e.line ++ ['\n']) = nsSpec es := by
  rw [flatMap_eq_joinSep, namespaceMap_joinSep _ (by simp) (List.forall_mem_append.mpr ⟨List.forall_mem_map.mpr hnb, by simp⟩),
    nsFold, List.foldl_append, nsFold_lines es hes, nsSpec_eq_foldl]
  exact nsStep_blank _

/-- the same when the last line has no terminator -/
theorem namespace_map_spec_nofinal (es : List NsEntry) (hne : es ≠ []) (hes : ∀ e ∈ es, e.WF) (hnb : ∀ e ∈ es, e.NoBreak) :
    namespaceMap (joinSep ['\n'] (es.map NsEntry.line)) = nsSpec es := by
  rw [namespaceMap_joinSep _ (by simpa using hne) (List.forall_mem_map.mpr hnb), nsSpec_eq_foldl]
  exact nsFold_lines es hes _

/-- with pairwise distinct ids the map is the declared list of (id, feature) pairs, in file order (this order becomes the
column order of the VW header) -/
theorem namespace_map_distinct (es : List NsEntry) (hd : (es.map NsEntry.id).Pairwise (· ≠ ·)) :
    (nsSpec es).map = es.map fun e => (e.id, e.feature) :=
  nsSpec_eq_foldl es ▸ ListAux.foldl_hist (step := nsSpecStep)
    (P := fun hist s => (hist.map NsEntry.id).Pairwise (· ≠ ·) → s.map = hist.map fun e => (e.id, e.feature))
    (fun _ => rfl) (fun hist s e h hp => by
      -- the id of `e` is new to the map so far, so `dictSet` appends
      rw [List.map_append, List.pairwise_append] at hp
      rw [List.map_append, ← h hp.1]
      exact dictSet_new _ _ _ fun kv hkv => by
        rw [h hp.1] at hkv
        obtain ⟨e', he', rfl⟩ := List.mem_map.mp hkv
        exact hp.2.2 _ (List.mem_map_of_mem he') _ (by simp)) es hd

/-- the float set is exactly the set of features declared `f32` -/
theorem namespace_float_set (es : List NsEntry) (f : Str) :
    f ∈ (nsSpec es).floats ↔ ∃ e ∈ es, e.type = some f32 ∧ e.feature = f :=
  nsSpec_eq_foldl es ▸ ListAux.foldl_hist (step := nsSpecStep) (P := fun hist s => f ∈ s.floats ↔ ∃ e ∈ hist, e.type = some f32 ∧ e.feature = f)
    (by simp) (fun hist s e h => by rw [mem_nsSpecStep_floats, h]; simp [or_and_right, exists_or]) es

/-- the quirk kept as a precondition: a two-field line whose id contains `_` is skipped by the code -/
theorem namespace_two_field_underscore_skipped :
    namespaceMap "a_b,feat\nc,feat2\n".toList = ⟨[], [("c".toList, "feat2".toList)]⟩ := by
  rw [String.toList_ofList, String.toList_ofList, String.toList_ofList]; decide +kernel

example :
    let es : List NsEntry := [⟨"a".toList, "feat_a".toList, some f32⟩, ⟨"b".toList, "feat b".toList, none⟩,
      ⟨"c_d".toList, "feat_c".toList, some "generic".toList⟩]
    ((∀ e ∈ es, e.WF) ∧ (∀ e ∈ es, e.NoBreak)) ∧
    namespaceMap (es.flatMap fun e => e.line ++ ['\n']) =
      ⟨["feat_a".toList], [("a".toList, "feat_a".toList), ("b".toList, "feat b".toList), ("c_d".toList, "feat_c".toList)]⟩ := by
  rw [String.toList_ofList, String.toList_ofList, String.toList_ofList, String.toList_ofList, String.toList_ofList,
    String.toList_ofList, String.toList_ofList]
  decide +kernel

end C16
