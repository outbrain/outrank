import OutrankModel.Gen.Dispatch
import OutrankModel.Lemmas.C05
import OutrankModel.Props.C01
import OutrankModel.Props.C03
/-!
# C05 – each emitted score is the selected heuristic applied to the two columns

`C05.Gen.rules / correctionName / documentedNames` are REGENERATED from the source tree by every run of the check
(harness/c05_translate.py); the theorems up to `numba_family` are re-checked against the regenerated tables by `decide`.
Everything after them is for all inputs.  The MI-side semantics are the theorems of C01 (`MI.estimator_eq_plugin`,
`MI.pluginL_eq`, `MI.estimator_self`) and C03 (`MI.corrected_identity`, `MI.corrected_self`), cited below.
`sklearnMI` is GIVEN the semantics `MI.pluginL` (an external; the tie compares it numerically with sklearn).
-/
namespace C05
open C05.Gen

/-- C05-1 (last sentence of the property): no heuristic name used in the project's documentation, examples, scripts,
benchmarks, CLI help or self-test – other than the `surrogate-…` family, which the property excludes – falls through
to the final `else` (warning + constant 0.0). -/
theorem documented_not_fallback :
    ∀ h ∈ documentedNames, startsWith "surrogate-" h = false → dispatch rules h ≠ .fallback0 := by
  decide +kernel

/-- C05-2: the name ↦ scorer table the property states. -/
theorem dispatch_table :
    dispatch rules "MI" = .sklearnMI ∧
    dispatch rules "MI-numba-3mr" = .numbaMI ∧
    dispatch rules "MI-numba-randomized" = .numbaMI ∧
    dispatch rules "max-value-coverage" = .coverage ∧
    dispatch rules "AMI" = .ami ∧
    dispatch rules "correlation-Pearson" = .pearson ∧
    dispatch rules "Constant" = .const0 := by
  decide +kernel

/-- the name `numba_mi` compares with -/
theorem correction_name : correctionName = "MI-numba-randomized" := rfl

/-- C05-2 / C03-5: the cardinality correction is on for EXACTLY the name `MI-numba-randomized` (for every string). -/
theorem correction_flag_exact (h : String) :
    correctionFlag correctionName h = true ↔ h = "MI-numba-randomized" := by
  rw [correction_name]; unfold correctionFlag; exact beq_iff_eq

theorem correction_flag_table :
    correctionFlag correctionName "MI-numba-3mr" = false ∧ correctionFlag correctionName "MI-numba-randomized" = true :=
  ⟨Bool.eq_false_iff.2 fun e => absurd ((correction_flag_exact _).1 e) (by decide +kernel),
    (correction_flag_exact _).2 rfl⟩

/-- the whole `MI-numba` family (every name containing `MI-numba`, documented or not) reaches `numba_mi` -/
theorem numba_family (h : String) (hc : infixB "MI-numba".toList h.toList = true) : dispatch rules h = .numbaMI :=
  dispatch_of_infixBranch hc (by decide +kernel)

/-- C05-3a: if the label is one of the two names of the pair, it ends up second (= `vector_second` = the conditioning
target X of the estimator) and the other name first. -/
theorem orient_label {ν : Type} [DecidableEq ν] (a b label : ν) (h : a = label ∨ b = label) :
    (orient (a, b) label).2 = label ∧ ((orient (a, b) label).1 = a ∨ (orient (a, b) label).1 = b) := by
  unfold orient
  by_cases ha : a = label
  · simp [ha]
  · rcases h with h | h
    · exact absurd h ha
    · simp [ha, h]

/-- C05-3b: a pair whose first name is not the label (in particular a pair without the label) keeps its order. -/
theorem orient_keeps_order {ν : Type} [DecidableEq ν] (a b label : ν) (h : a ≠ label) :
    orient (a, b) label = (a, b) :=
  if_neg h

/-- orientation never changes WHICH two columns are scored -/
theorem orient_same_columns {ν : Type} [DecidableEq ν] (a b label : ν) :
    orient (a, b) label = (a, b) ∨ orient (a, b) label = (b, a) := by
  unfold orient
  by_cases ha : a = label
  · right; simp [ha]
  · left; simp [ha]

/-- C05-4a: the reported count is never below the true largest joint-value frequency (hash collisions only merge). -/
theorem coverage_ge (A B : List Int) : maxJoint A B ≤ coverageCount A B :=
  maxFreq_le_map pairHash _

/-- C05-4b: it IS the largest joint-value frequency whenever the pair hash is injective on the occurring pairs. -/
theorem coverage_exact (A B : List Int)
    (hinj : ∀ p ∈ A.zip B, ∀ q ∈ A.zip B, pairHash q = pairHash p → q = p) :
    coverageCount A B = maxJoint A B :=
  maxFreq_map_of_injOn pairHash _ hinj

/-- the sufficient condition proved cheaply: the pair hash `(a·1471343 − b) mod 10^6` is injective on codes below 800
(one-quantifier table `hash_table_800` over the 799 non-zero differences, by kernel evaluation). -/
theorem hash_injective_below_800 (a b a' b' : Int) (ha : 0 ≤ a ∧ a < 800) (hb : 0 ≤ b ∧ b < 800)
    (ha' : 0 ≤ a' ∧ a' < 800) (hb' : 0 ≤ b' ∧ b' < 800) (h : pairHash (a, b) = pairHash (a', b')) :
    (a, b) = (a', b') := by
  rcases Int.le_total a' a with hle | hle
  · obtain ⟨rfl, rfl⟩ := pairHash_inj_le a b a' b' ha hb ha' hb' hle h
    rfl
  · obtain ⟨rfl, rfl⟩ := pairHash_inj_le a' b' a b ha' hb' ha hb hle h.symm
    rfl

/-- … and it is NOT injective in general: a collision (why "up to collisions" cannot be dropped). -/
theorem hash_collision : pairHash (157, 851) = pairHash (0, 0) ∧ ((157, 851) : Int × Int) ≠ (0, 0) := by
  decide

/-- C05-4c: with fewer than 800 categories on both sides (category codes are `0 … k−1`) the coverage count is exactly
the largest joint-value frequency. -/
theorem coverage_exact_below_800 (A B : List Nat) (hA : ∀ a ∈ A, a < 800) (hB : ∀ b ∈ B, b < 800) :
    coverageCount (A.map Int.ofNat) (B.map Int.ofNat) = maxJoint (A.map Int.ofNat) (B.map Int.ofNat) := by
  apply coverage_exact
  -- one fact for both columns: the codes of a column below 800 lie in `[0, 800)`
  have bound : ∀ L : List Nat, (∀ a ∈ L, a < 800) → ∀ z ∈ L.map Int.ofNat, 0 ≤ z ∧ z < 800 := fun L hL z hz => by
    obtain ⟨a, ha, rfl⟩ := List.mem_map.1 hz
    exact ⟨Int.natCast_nonneg a, Int.ofNat_lt.2 (hL a ha)⟩
  intro p hp q hq e
  have hp := List.of_mem_zip hp
  have hq := List.of_mem_zip hq
  exact hash_injective_below_800 q.1 q.2 p.1 p.2 (bound A hA _ hq.1) (bound B hB _ hq.2) (bound A hA _ hp.1)
    (bound B hB _ hp.2) e

/-- the decidable injectivity test the oracle evaluates on the implementation's inputs is sound for exactness -/
theorem coverage_exact_of_check (A B : List Int) (h : hashInjOn (A.zip B) = true) :
    coverageCount A B = maxJoint A B :=
  coverage_exact A B ((hashInjOn_iff _).1 h)

/-- the emitted fraction: `coverage = coverageCount / n`, hence `= maxJoint / n` under the same condition -/
theorem coverage_fraction_exact (A B : List Nat) (hA : ∀ a ∈ A, a < 800) (hB : ∀ b ∈ B, b < 800) :
    coverage (A.map Int.ofNat) (B.map Int.ofNat)
      = (maxJoint (A.map Int.ofNat) (B.map Int.ofNat) : Rat) / ((A.map Int.ofNat).length : Rat) := by
  unfold coverage; rw [coverage_exact_below_800 A B hA hB]

/-- the largest joint frequency is attained by an occurring pair and bounds every pair's frequency
(what "largest joint-value frequency" means) -/
theorem maxJoint_spec (A B : List Int) (hne : A.zip B ≠ []) :
    (∃ p ∈ A.zip B, maxJoint A B = (A.zip B).count p) ∧ ∀ p, (A.zip B).count p ≤ maxJoint A B := by
  refine ⟨maxFreq_attained _ hne, fun p => ?_⟩
  by_cases hp : p ∈ A.zip B
  · exact count_le_maxFreq _ hp
  · rw [List.count_eq_zero_of_not_mem hp]; exact Nat.zero_le _

/-- category codes identify exactly equal strings: the coded column has the same equality pattern as the strings -/
theorem catCodes_kernel (vs : List String) (i j : Nat) (hi : i < vs.length) (hj : j < vs.length) :
    (catCodes vs)[i]'(by rw [catCodes_length]; exact hi) = (catCodes vs)[j]'(by rw [catCodes_length]; exact hj)
      ↔ vs[i] = vs[j] := by
  unfold catCodes
  simp only [List.getElem_map]
  exact List.idxOf_inj ((mem_categories vs _).2 (List.getElem_mem hi))

/-- `MI` (sklearn, given the plug-in semantics) -/
theorem score_MI (flag : Bool) (rn rd : Nat) (A B : List Nat) (h : A.length = B.length) :
    scoreOf MI.realOps .sklearnMI flag rn rd A B = .val (MI.miPlugin A B) := by
  unfold scoreOf; rw [MI.pluginL_eq A B h]

/-- numba family, correction off, no subsampling: the plug-in MI (C01 `estimator_eq_plugin`) -/
theorem score_numba_plain (A B : List Nat) (h : A.length = B.length) (hn : 0 < B.length) :
    scoreOf MI.realOps .numbaMI false 1 1 A B = .val (MI.miPlugin A B) := by
  unfold scoreOf; rw [MI.estimator_eq_plugin A B h hn]

/-- numba family, correction on: the cardinality-corrected score `H(A*|B) − H(A|B)` with B the conditioning side
(C03 `corrected_identity`); a column against itself scores its entropy (C03 `corrected_self`) -/
theorem score_numba_corrected (A B : List Nat) (h : A.length = B.length) (hn : 0 < B.length) (hne : A ≠ B) :
    scoreOf MI.realOps .numbaMI true 1 1 A B = .val (MI.condEntropy (MI.ystar A B) B - MI.condEntropy A B) := by
  unfold scoreOf; rw [MI.corrected_identity A B h hn hne]

theorem score_numba_self (B : List Nat) (hn : 0 < B.length) (flag : Bool) :
    scoreOf MI.realOps .numbaMI flag 1 1 B B = .val (MI.entropy B) := by
  unfold scoreOf
  cases flag
  · rw [MI.estimator_self B hn]
  · rw [MI.corrected_self B hn]

/-- `Constant` (and the fall-through) score 0 -/
theorem score_constant {α : Type} (o : MI.Ops α) (flag : Bool) (rn rd : Nat) (A B : List Nat) :
    scoreOf o .const0 flag rn rd A B = .exact 0 ∧ scoreOf o .fallback0 flag rn rd A B = .exact 0 :=
  ⟨rfl, rfl⟩

/-- C05-5 (first sentence of the property), for every frame, label and pair: the emitted triplet names the pair as
given and its score is the dispatched scorer on the category codes of the ORIENTED pair, specialised per name through
the regenerated table.  `n` rows, both columns present. -/
theorem triplet_scores (f : Frame) (label : String) (pair : String × String)
    (hlen : (column f (orient pair label).1).length = (column f (orient pair label).2).length)
    (hn : 0 < (column f (orient pair label).2).length) :
    let A := catCodes (column f (orient pair label).1)
    let B := catCodes (column f (orient pair label).2)
    triplet MI.realOps rules correctionName f label "MI" 1 1 pair = (pair.1, pair.2, .val (MI.miPlugin A B)) ∧
    triplet MI.realOps rules correctionName f label "MI-numba-3mr" 1 1 pair = (pair.1, pair.2, .val (MI.miPlugin A B)) ∧
    (A ≠ B → triplet MI.realOps rules correctionName f label "MI-numba-randomized" 1 1 pair
      = (pair.1, pair.2, .val (MI.condEntropy (MI.ystar A B) B - MI.condEntropy A B))) ∧
    (A = B → triplet MI.realOps rules correctionName f label "MI-numba-randomized" 1 1 pair
      = (pair.1, pair.2, .val (MI.entropy B))) ∧
    triplet MI.realOps rules correctionName f label "max-value-coverage" 1 1 pair
      = (pair.1, pair.2, .exact (coverage (A.map Int.ofNat) (B.map Int.ofNat))) ∧
    triplet MI.realOps rules correctionName f label "Constant" 1 1 pair = (pair.1, pair.2, .exact 0) ∧
    triplet MI.realOps rules correctionName f label "AMI" 1 1 pair = (pair.1, pair.2, .ext .ami) ∧
    triplet MI.realOps rules correctionName f label "correlation-Pearson" 1 1 pair = (pair.1, pair.2, .ext .pearson) := by
  intro A B
  have hAB : A.length = B.length := by simp only [A, B, catCodes_length]; exact hlen
  have hB : 0 < B.length := by simp only [B, catCodes_length]; exact hn
  obtain ⟨dMI, d3mr, dRand, dCov, dAMI, dPearson, dConst⟩ := dispatch_table
  obtain ⟨f3mr, fRand⟩ := correction_flag_table
  have key : ∀ h, triplet MI.realOps rules correctionName f label h 1 1 pair
      = (pair.1, pair.2, scoreOf MI.realOps (dispatch rules h) (correctionFlag correctionName h) 1 1 A B) :=
    fun h => triplet_eq ..
  refine ⟨?_, ?_, fun hne => ?_, fun he => ?_, ?_, ?_, ?_, ?_⟩
  · rw [key, dMI, score_MI _ 1 1 A B hAB]
  · rw [key, d3mr, f3mr, score_numba_plain A B hAB hB]
  · rw [key, dRand, fRand, score_numba_corrected A B hAB hB hne]
  · rw [key, dRand, fRand, he, score_numba_self B hB]
  · rw [key, dCov]; rfl
  · rw [key, dConst]; rfl
  · rw [key, dAMI]; rfl
  · rw [key, dPearson]; rfl

/-! ## non-vacuity -/

example : ∃ h ∈ documentedNames, startsWith "surrogate-" h = false := by
  -- the literal's characters without kernel decoding (BUILDING.md, "String literals")
  simp only [startsWith]; rw [String.toList_ofList]; decide +kernel
example : infixB "MI-numba".toList "MI-numba-3mr".toList = true := by
  rw [String.toList_ofList, String.toList_ofList]; decide +kernel
example : orient ("label", "f1") "label" = ("f1", "label") ∧ orient ("f1", "label") "label" = ("f1", "label")
    ∧ orient ("f2", "f1") "label" = ("f2", "f1") := by decide +kernel
example : coverageCount [157, 0, 1] [851, 0, 1] = 2 ∧ maxJoint [157, 0, 1] [851, 0, 1] = 1 := by decide +kernel
example : coverageCount [1, 1, 2, 3, 1, 1, 1, 5] [0, 0, 5, 5, 3, 0, 0, 0] = 4 := by decide +kernel
example : catCodes ["b", "", "a", "b", "é"] = [2, 0, 1, 2, 3] := by decide +kernel
example : let f : Frame := [("x", ["u", "v", "u"]), ("label", ["1", "0", "1"])]
    (column f (orient ("label", "x") "label").1).length = (column f (orient ("label", "x") "label").2).length
      ∧ 0 < (column f (orient ("label", "x") "label").2).length := by decide +kernel

end C05
