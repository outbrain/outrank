import OutrankModel.Model.C13
import OutrankModel.Props.C14
import OutrankModel.Lemmas.C13Rare
import OutrankModel.Lemmas.C13Stats
/-!
# C13 – data-quality statistics are exact and independent of the batch split

Rows are cut into consecutive mini-batches `batches : List (List R)`; "the same rows, another split" is
`batches.flatten = batches'.flatten` (every composition of the row count, empty batches included).  Columns are
projections of a row.  All theorems hold for every row sequence, every split, every threshold / bound / symbol list and
EVERY hash (`card_exact` alone needs the internal hash to be collision-free on the occurring values – the property's
"up to 32-bit hash collisions").  Coverage is NOT split independent (the property does not claim it): it is the mean of
the per-batch percentages, each of which is the exact percentage of the batch.
-/
namespace C13
variable {R V K D : Type}

section Coverage
variable [DecidableEq V]

/-- C13-1a: the per-batch coverage is the exact percentage of cells that are none of the missing symbols
(duplicated symbols in the list do not count twice); a frame without rows raises. -/
theorem coverage_formula (miss col : List V) :
    covBatch miss col = if col = [] then none else some (covSpec miss col) := by
  split
  · next h => subst h; rfl
  · next h => exact covBatch_eq_spec miss col h

/-- C13-1b: a coverage percentage lies in [0, 100]. -/
theorem coverage_range (miss col : List V) (h : col ≠ []) : 0 ≤ covSpec miss col ∧ covSpec miss col ≤ 100 :=
  covSpec_range miss col

/-- C13-1c: the annotation is `int(round(·, 1))` of the mean of the exact per-batch percentages. -/
theorem annot_is_mean (miss : List V) (f : R → V) (batches : List (List R)) (h : ∀ b ∈ batches, b ≠ []) :
    annotColumn miss f batches = (mean (batches.map fun b => covSpec miss (b.map f))).map annotOfMean := by
  have hc : covColumn miss f batches = some (batches.map fun b => covSpec miss (b.map f)) :=
    ListAux.mapM_eq_some.2 <| by
      rw [List.map_map]
      exact List.map_congr_left fun b hb => covBatch_eq_spec miss _ (by simpa using h b hb)
  unfold annotColumn annot
  rw [hc]
  rfl

end Coverage

section Card
variable [DecidableEq V] [DecidableEq D]

/-- C13-2 (characterisation): whatever the split and whatever order the per-batch value SETS are iterated in, the reported
cardinality is C14's stateless size of the set of digests of the non-empty values among the consumed rows. -/
theorem card_eq_spec (c : C14.Cfg D) (hc : c.WF) (est : Nat → Nat) (truthy : V → Bool) (ih : V → D) (f : R → V)
    (batches : List (List R)) (feed : List D) (hfeed : ∀ x, x ∈ feed ↔ x ∈ cardFeed truthy ih f batches) :
    C14.len est (C14.run c feed) = C14.spec c est (((batches.flatten.map f).filter truthy).map ih) := by
  rw [C14.len_run_eq_spec c hc]
  exact C14.spec_congr c est fun x => (hfeed x).trans (mem_cardFeed truthy ih f batches x)

/-- the model's own feed order is one of them -/
theorem card_eq_spec_model (c : C14.Cfg D) (hc : c.WF) (est : Nat → Nat) (truthy : V → Bool) (ih : V → D) (f : R → V)
    (batches : List (List R)) :
    card c est truthy ih f batches = C14.spec c est (((batches.flatten.map f).filter truthy).map ih) := by
  unfold card
  rw [cardSketch_eq_run]
  exact card_eq_spec c hc est truthy ih f batches _ fun _ => Iff.rfl

/-- C13-2a: the cardinality does not depend on how the rows are split into mini-batches (both sketch phases). -/
theorem card_split_independent (c : C14.Cfg D) (hc : c.WF) (est : Nat → Nat) (truthy : V → Bool) (ih : V → D) (f : R → V)
    (batches batches' : List (List R)) (h : batches.flatten = batches'.flatten) :
    card c est truthy ih f batches = card c est truthy ih f batches' := by
  rw [card_eq_spec_model c hc, card_eq_spec_model c hc, h]

/-- C13-2b: with a collision-free internal hash on the occurring non-empty values and at most `W` of them (the warm-up
capacity), the cardinality is exactly the number of distinct non-empty values of the consumed rows. -/
theorem card_exact (c : C14.Cfg D) (hc : c.WF) (est : Nat → Nat) (truthy : V → Bool) (ih : V → D) (f : R → V)
    (batches : List (List R))
    (hinj : ∀ a ∈ (batches.flatten.map f).filter truthy, ∀ b ∈ (batches.flatten.map f).filter truthy, ih a = ih b → a = b)
    (hW : cardExact truthy (batches.flatten.map f) ≤ c.W) :
    card c est truthy ih f batches = cardExact truthy (batches.flatten.map f) := by
  rw [card_eq_spec_model c hc]
  have e := ListAux.eraseDups_map_length_of_injOn ih _ hinj
  rw [C14.spec_of_le est (e ▸ hW), e]
  rfl

omit [DecidableEq V] [DecidableEq D] in
/-- the configuration the driver runs (real constants p = 19, W = 2^18, or the small ones of the tie) is well-formed for EVERY
second-level hash -/
theorem hashedCfg_WF (p W : Nat) (hp : p ≤ 32) (h2 : D → Nat) : (hashedCfg p W h2).WF :=
  ⟨fun _ => C14.digestCfg_bucket p W _, fun _ => C14.digestCfg_rho p W _ hp (Nat.mod_lt _ (by decide))⟩

end Card

section Hist
variable [DecidableEq V]

/-- C13-3a: the bounded counter is fed row by row, so its whole state is a function of the consumed rows. -/
theorem ctr_sequential (bound : Nat) (f : R → V) (batches : List (List R)) :
    ctrState bound f batches = (C15.Ctr.empty : C15.Ctr V).run bound (batches.flatten.map f) :=
  by simp only [ctrState, C15.Ctr.run, List.map_flatten, List.foldl_flatten, List.foldl_map]

theorem hist_split_independent (bound : Nat) (f : R → V) (batches batches' : List (List R))
    (h : batches.flatten = batches'.flatten) : hist bound f batches = hist bound f batches' := by
  unfold hist
  rw [ctr_sequential, ctr_sequential, h]

/-- C13-3b: while fewer than `bound` distinct values were seen the histogram is the exact one (for every threshold). -/
theorem hist_exact (bound : Nat) (f : R → V) (batches : List (List R))
    (h : (batches.flatten.map f).eraseDups.length < bound) :
    hist bound f batches = histSpec (batches.flatten.map f) ∧
    ∀ t, histAt (ctrState bound f batches) t = histSpecAt (batches.flatten.map f) t := by
  have key : ∀ t, histAt (ctrState bound f batches) t = histSpecAt (batches.flatten.map f) t := by
    intro t; rw [ctr_sequential]; exact histAt_exact bound _ h t
  refine ⟨?_, key⟩
  unfold hist histOf histSpec
  exact List.map_congr_left fun t _ => key t

/-- C13-3c: at or beyond the bound the histogram never over-reports. -/
theorem hist_never_overreports (bound : Nat) (f : R → V) (batches : List (List R)) (t : Nat) :
    histAt (ctrState bound f batches) t ≤ histSpecAt (batches.flatten.map f) t := by
  rw [ctr_sequential]; exact histAt_le bound _ t

end Hist

section Rare
variable [DecidableEq K]

/-- what the exact table contains: every pair that occurs, with its total count, iff the total is at most the bound -/
theorem mem_rareSpec (thr : Int) (all : List K) (k : K) (n : Nat) :
    (k, n) ∈ rareSpec thr all ↔ n = all.count k ∧ 0 < n ∧ (n : Int) ≤ thr := by
  simp only [rareSpec, List.mem_map, List.mem_filter, List.mem_eraseDups, decide_eq_true_iff, Prod.mk.injEq]
  constructor
  · rintro ⟨k', ⟨hm, hle⟩, rfl, rfl⟩
    exact ⟨rfl, List.count_pos_iff.2 hm, hle⟩
  · rintro ⟨rfl, hp, hle⟩
    exact ⟨k, ⟨List.count_pos_iff.1 hp, hle⟩, rfl, rfl⟩

/-- C13-4 (characterisation): for EVERY split of the rows into batches and every threshold, the final rare-value table is
(up to the order of its rows) the exact table of the consumed rows. -/
theorem rare_exact (thr : Int) (cols : List (R → K)) (batches : List (List R)) :
    (rareRun thr cols batches).report.Perm (rareSpec thr (batchKeys cols batches.flatten)) :=
  (minv_rareRun thr cols batches).report_perm

/-- the table has one row per pair -/
theorem rare_keys_nodup (thr : Int) (cols : List (R → K)) (batches : List (List R)) :
    ((rareRun thr cols batches).report.map Prod.fst).Nodup := by
  have := (minv_rareRun thr cols batches).nodup
  simpa [Rare.report, Function.comp_def] using this

/-- the retired set is exactly the set of pairs whose total count exceeds the bound -/
theorem retired_exact (thr : Int) (cols : List (R → K)) (batches : List (List R)) (k : K) :
    k ∈ (rareRun thr cols batches).retired ↔
      0 < (batchKeys cols batches.flatten).count k ∧ thr < ((batchKeys cols batches.flatten).count k : Int) :=
  (minv_rareRun thr cols batches).retired k

/-- C13-4a: the rare-value report does not depend on how the rows are split into mini-batches. -/
theorem rare_split_independent (thr : Int) (cols : List (R → K)) (batches batches' : List (List R))
    (h : batches.flatten = batches'.flatten) :
    (rareRun thr cols batches).report.Perm (rareRun thr cols batches').report := by
  have h1 := rare_exact thr cols batches
  have h2 := rare_exact thr cols batches'
  rw [h] at h1
  exact h1.trans h2.symm

/-- the step BEFORE the repair: `value not in ignored_values` tests a bare value against a set of (column, value) tuples,
which is never a member, so every cell is counted – also pairs that were retired (and deleted) in an earlier batch. -/
def oldStep (thr : Int) (cols : List (R → K)) (s : Rare K) (b : List R) : Rare K :=
  ((batchKeys cols b).foldl Rare.bump s).retire thr

/-- C13-5 (defect F8): with the old step the report depends on the split: rows u,u,u,v,u,w with bound 2 – in one batch `u`
(4 occurrences) is not reported; split as [u,u,u,v] | [u,w] it is reported as rare with count 1. -/
theorem old_rare_split_dependent :
    ∃ (thr : Int) (cols : List (Nat → Nat)) (b b' : List (List Nat)), b.flatten = b'.flatten ∧
      (0, 1) ∈ (b.foldl (oldStep thr cols) Rare.empty).report ∧
      (∀ n, (0, n) ∉ (b'.foldl (oldStep thr cols) Rare.empty).report) ∧
      (∀ n, (0, n) ∉ rareSpec thr (batchKeys cols b.flatten)) := by
  refine ⟨2, [id], [[0, 0, 0, 1], [0, 2]], [[0, 0, 0, 1, 0, 2]], by decide +kernel, by decide +kernel, ?_, ?_⟩
  · have e : ∀ p ∈ (([[0, 0, 0, 1, 0, 2]] : List (List Nat)).foldl (oldStep 2 [id]) Rare.empty).report, p.1 ≠ 0 := by
      decide +kernel
    exact fun n hn => e _ hn rfl
  · intro n hn
    rw [mem_rareSpec] at hn
    have e : (batchKeys [id] ([[0, 0, 0, 1], [0, 2]] : List (List Nat)).flatten).count 0 = 4 := by decide +kernel
    rw [e] at hn
    omega

/-! non-vacuity: the repaired step on the same rows reports the same table for both splits; the hypotheses of the exactness
theorems are satisfiable -/
example : (rareRun 2 [id] ([[0, 0, 0, 1], [0, 2]] : List (List Nat))).report = [(1, 1), (2, 1)] ∧
    (rareRun 2 [id] ([[0, 0, 0, 1, 0, 2]] : List (List Nat))).report = [(1, 1), (2, 1)] := by decide +kernel
example : (rareRun 2 [id] ([[0, 0, 0, 1], [0, 2]] : List (List Nat))).retired = [0] := by decide +kernel

end Rare

/-! non-vacuity of the hypotheses of `card_exact` (collision-free hash, at most W distinct non-empty values) and `hist_exact`
(fewer than `bound` distinct values), with different splits of the same rows; a duplicated missing symbol counts once -/
def exCfg : C14.Cfg Nat := { m := 4, W := 2, bucket := fun x => x % 4, rho := fun _ => 1 }
example : exCfg.WF := ⟨fun v => Nat.mod_lt v (by decide), fun _ => Nat.one_pos⟩
example : cardExact (fun v => v != 0) (([[0, 5], [5, 9, 0]] : List (List Nat)).flatten.map id) ≤ exCfg.W ∧
    card exCfg id (fun v => v != 0) id id ([[0, 5], [5, 9, 0]] : List (List Nat)) = 2 ∧
    card exCfg id (fun v => v != 0) id id ([[0], [5, 5], [9, 0]] : List (List Nat)) = 2 := by decide +kernel
example : (([[0, 5], [5, 5, 0]] : List (List Nat)).flatten.map id).eraseDups.length < 3 ∧
    hist 3 id ([[0, 5], [5, 5, 0]] : List (List Nat)) = [2, 2, 0, 0, 0, 0, 0] ∧
    hist 3 id ([[0, 5, 5, 5, 0]] : List (List Nat)) = [2, 2, 0, 0, 0, 0, 0] := by decide +kernel
example : missingCount [0, 0, 7] [0, 1, 7, 2] = 2 := by decide +kernel

end C13
