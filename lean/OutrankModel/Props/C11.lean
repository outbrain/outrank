import OutrankModel.Lemmas.Construct
/-!
# C11 – feature construction is additive, row-aligned and follows its stated rule

Model: `Construct.pipeline` (`Model/Construct.lean`) = the construction part of `compute_batch_ranking`:
transformations (opaque block, content is C12's) → multi-value expansion → sub-features → interactions (C10) →
AND_REL interactions for 3mr → noise controls, under any subset of the flags.  Externals (`Ext`): the hash, the
iteration order of the token `set` (an arbitrary permutation; `sorted(unique_values)`, which the source iterates since its `fix:`,
is one), the transformation block, the random / row-hash control
columns.

The proofs are structurally easy (the model appends with `++`); most of the assurance for C11 is the tie.
-/
namespace Construct

/-- the externals are well-behaved: the set iteration order is a permutation, the opaque blocks have one value per row -/
structure ExtOK (e : Ext) (n : Nat) : Prop where
  perm : ∀ f l, (e.perm f l).Perm l
  tblock : ∀ fr : Frame, ∀ c ∈ e.tblock fr, c.2.length = nrows fr
  rnd : ∀ nm, (e.rnd nm).length = n

/-- sub-feature seeds refer to columns that exist when `compute_subfeatures` runs (otherwise the code raises `KeyError`) -/
def SeedsOK (e : Ext) (c : Cfg) (fr : Frame) : Prop :=
  ∀ seeds, c.sub = some seeds → ∀ s ∈ seeds,
    s.a ∈ names (stExplode e c (stTransform e c fr)) ∧ s.b ∈ names (stExplode e c (stTransform e c fr))

/-- C11-3a: the columns generated for a multi-value feature `f` are exactly: one column `MULTIEX-f-t` per token `t` that
occurs in some row's delimited value and is NOT a missing-value symbol, holding "1" exactly on the rows whose value
contains the token and "" elsewhere – whatever the iteration order of the token set. -/
theorem multi_indicator (missing : List String) (perm : String → List String → List String) (fr : Frame) (f : String)
    (hp : ∀ l, (perm f l).Perm l) (col : Column) :
    col ∈ explodeOne missing perm fr f ↔
      ∃ t, t ∉ missing ∧ (∃ v ∈ colOf fr f, t ∈ tokensOf v) ∧
        col = ("MULTIEX-" ++ f ++ "-" ++ t, (colOf fr f).map fun v => if t ∈ tokensOf v then "1" else "") := by
  simp only [explodeOne, List.mem_map, (hp _).mem_iff, List.mem_filter, mem_uniq, List.mem_flatten,
    Bool.not_eq_true', List.contains_eq_mem, decide_eq_false_iff_not, List.map_map, Function.comp_def, decide_eq_true_eq,
    exists_exists_and_eq_and]
  exact exists_congr fun t => by rw [and_comm (b := t ∉ missing), and_assoc, eq_comm]

/-- C11-3b: every column appended by `compute_expanded_multivalue_features` is such an indicator column of one of the
requested features (tokens equal to a missing symbol produce no column), and every indicator name is present
(dict semantics: a name written twice keeps its first position and last value). -/
theorem multi_block (missing : List String) (perm : String → List String → List String) (feats : List String) (fr : Frame)
    (hp : ∀ f l, (perm f l).Perm l) :
    (∀ col ∈ explodeBlock missing perm feats fr, ∃ f ∈ feats, ∃ t, t ∉ missing ∧ (∃ v ∈ colOf fr f, t ∈ tokensOf v) ∧
        col = ("MULTIEX-" ++ f ++ "-" ++ t, (colOf fr f).map fun v => if t ∈ tokensOf v then "1" else ""))
    ∧ (∀ f ∈ feats, ∀ t, t ∉ missing → (∃ v ∈ colOf fr f, t ∈ tokensOf v) →
        "MULTIEX-" ++ f ++ "-" ++ t ∈ names (explodeBlock missing perm feats fr))
    ∧ (names (explodeBlock missing perm feats fr)).Nodup := by
  refine ⟨?_, ?_, by rw [explodeBlock, names, keys_dictOfList]; exact ListAux.nodup_eraseDups _⟩
  · intro col hc
    obtain ⟨f, hf, hcf⟩ := List.mem_flatMap.mp (mem_dictOfList hc)
    exact ⟨f, hf, (multi_indicator missing perm fr f (hp f) col).mp hcf⟩
  · intro f hf t ht hv
    rw [explodeBlock, names, keys_dictOfList, List.mem_eraseDups]
    exact List.mem_map.mpr
      ⟨_, List.mem_flatMap.mpr ⟨f, hf, (multi_indicator missing perm fr f (hp f) _).mpr ⟨t, ht, hv, rfl⟩⟩, rfl⟩

/-- C11-3c: what "the delimited value contains the token" means: a value that is the tokens `t0, t1, …` (free of ',' and
'-') joined by ',' or '-' in any mixture has exactly these tokens (`split` keeps empty fields). -/
theorem tokens_of_joined (t : List Char) (rest : List (Char × List Char))
    (ht : ∀ c ∈ t, isDelim c = false) (hr : ∀ x ∈ rest, isDelim x.1 = true ∧ ∀ c ∈ x.2, isDelim c = false) :
    tokensOf (String.ofList (joinD t rest)) = (t :: rest.map (·.2)).map String.ofList := by
  simp only [tokensOf, String.toList_ofList]
  rw [splitBy_joinD isDelim rest t ht hr]

/-- C11-4a: a one-sided sub-feature `a->b` for selector value `u` carries the joined source value `a ++ "AND" ++ b`
exactly on the rows where the selector column `b` has the value `u`, and "" elsewhere. -/
theorem sub_one_sided (ca cb : List String) (u : String) (i : Nat) (ha : i < ca.length) (hb : i < cb.length) :
    (oneSidedCol ca cb u)[i]? = some (if cb[i] = u then ca[i] ++ "AND" ++ cb[i] else "") :=
  getElem?_zip_map _ ca cb i ha hb

/-- C11-4b: a two-sided sub-feature `a<->b` for the value pair `(ua, ub)` is the "1"/"0" indicator of that pair. -/
theorem sub_two_sided (ca cb : List String) (ua ub : String) (i : Nat) (ha : i < ca.length) (hb : i < cb.length) :
    (twoSidedCol ca cb ua ub)[i]? = some (if ca[i] = ua ∧ cb[i] = ub then "1" else "0") :=
  getElem?_zip_map _ ca cb i ha hb

/-- C11-4c: every column appended by `compute_subfeatures` is, for one of the seeds, the one-sided column of a value of
its selector (`SUBFEATURE-a&u`) or the two-sided column of a value pair (`SUBFEATURE|a|b-ua&ub`); on a name clash
the last one written survives (Python dict), and without clashes the block is exactly the generated list in order:
selector values in order of first occurrence, for `<->` pairs selector-major. -/
theorem sub_block (seeds : List Seed) (fr : Frame) :
    (∀ col ∈ subBlock seeds fr, ∃ s ∈ seeds,
        (s.two = false ∧ ∃ u ∈ colOf fr s.b,
          col = ("SUBFEATURE-" ++ s.a ++ "&" ++ u, oneSidedCol (colOf fr s.a) (colOf fr s.b) u))
        ∨ (s.two = true ∧ ∃ ua ∈ colOf fr s.a, ∃ ub ∈ colOf fr s.b,
          col = ("SUBFEATURE|" ++ s.a ++ "|" ++ s.b ++ "-" ++ ua ++ "&" ++ ub,
                 twoSidedCol (colOf fr s.a) (colOf fr s.b) ua ub)))
    ∧ (∀ name, name ∈ names (subBlock seeds fr) ↔ name ∈ names (subCandidates seeds fr))
    ∧ ((names (subCandidates seeds fr)).Nodup → subBlock seeds fr = subCandidates seeds fr)
    ∧ (∀ l1 l2 col, subCandidates seeds fr = l1 ++ col :: l2 → col.1 ∉ names l2 → col ∈ subBlock seeds fr) := by
  refine ⟨?_, fun name => by rw [subBlock, names, names, keys_dictOfList, List.mem_eraseDups], dictOfList_of_nodup, ?_⟩
  · intro col hc
    obtain ⟨s, hs, hcs⟩ := List.mem_flatMap.mp (mem_dictOfList hc)
    refine ⟨s, hs, ?_⟩
    split at hcs
    · rename_i h2
      exact Or.inr ⟨h2, subTwo_spec.mp hcs⟩
    · rename_i h2
      exact Or.inl ⟨by simpa using h2, subOne_spec.mp hcs⟩
  · intro l1 l2 col hsplit hk
    unfold subBlock
    rw [hsplit]
    exact dictOfList_last_wins l1 l2 col.1 col.2 hk

/-! Every stage of `pipeline` is `fr ↦ fr ++ block` or the identity: its input is a prefix of its output, and it
preserves `Rows n`. -/

section stages
variable {n : Nat} {fr : Frame} (e : Ext) (c : Cfg)

theorem prefix_stTransform (fr : Frame) : fr <+: stTransform e c fr := by unfold stTransform; split <;> simp
theorem prefix_stExplode (fr : Frame) : fr <+: stExplode e c fr := by unfold stExplode explodeMulti; split <;> simp
theorem prefix_stSub (fr : Frame) : fr <+: stSub c fr := by unfold stSub subfeatures; split <;> simp
theorem prefix_stInter (b on : Bool) (s : (List String → Nat) × Frame) : s.2 <+: (stInter e c b on s).2 := by
  unfold stInter combine; split <;> simp
theorem prefix_stNoise (fr : Frame) : fr <+: stNoise e c fr := by unfold stNoise noiseControls; split <;> simp

theorem rows_stTransform (he : ExtOK e n) (h : Rows n fr) : Rows n (stTransform e c fr) := by
  unfold stTransform; split
  · exact h.append fun col hc => (he.tblock fr col hc).trans h.1
  · exact h

theorem rows_stExplode (he : ExtOK e n) (h : Rows n fr) : Rows n (stExplode e c fr) := by
  unfold stExplode; split
  · refine h.append fun col hc => ?_
    obtain ⟨f, -, t, -, ⟨v, hv, -⟩, rfl⟩ := (multi_block _ _ _ fr he.perm).1 col hc
    -- a token occurs, so the column `f` is not empty, so it exists
    have hf : f ∈ names fr := by
      by_contra hf
      rw [colOf_nil_of_not_mem hf] at hv; cases hv
    simp [h.length_colOf hf]
  · exact h

theorem rows_stSub (hs : ∀ seeds, c.sub = some seeds → ∀ s ∈ seeds, s.a ∈ names fr ∧ s.b ∈ names fr) (h : Rows n fr) :
    Rows n (stSub c fr) := by
  unfold stSub; split
  · rename_i seeds hsome
    refine h.append fun col hc => ?_
    obtain ⟨s, hs', hcs⟩ := (sub_block seeds fr).1 col hc
    have ha := h.length_colOf (hs seeds hsome s hs').1
    have hb := h.length_colOf (hs seeds hsome s hs').2
    rcases hcs with ⟨-, u, -, rfl⟩ | ⟨-, ua, -, ub, -, rfl⟩
    · simp [oneSidedCol_length, ha, hb]
    · simp [twoSidedCol_length, ha, hb]
  · exact h

theorem rows_stInter (b on : Bool) {s : (List String → Nat) × Frame} (h : Rows n s.2) : Rows n (stInter e c b on s).2 := by
  unfold stInter; split
  · refine h.append fun col hc => ?_
    obtain ⟨combo, -, rfl⟩ := mem_interBlock hc
    exact (interCol_length _ _ _).trans h.1
  · exact h

theorem rows_stNoise (he : ExtOK e n) (h : Rows n fr) : Rows n (stNoise e c fr) := by
  unfold stNoise; split
  · refine h.append fun col hc => ?_
    simp only [noiseBlock, List.mem_append, List.mem_singleton, List.mem_map] at hc
    rcases hc with (((rfl | ⟨nm, -, rfl⟩) | rfl) | hc) | rfl
    · simp [h.1]
    · exact he.rnd nm
    · simp [h.1]
    · split at hc
      · rename_i hl
        rw [List.mem_singleton.mp hc]
        exact h.length_colOf (by simpa using hl)
      · cases hc
    · exact he.rnd _
  · exact h

end stages

/-- everything before the noise controls only appends columns -/
theorem pipeline_noise (e : Ext) (c : Cfg) (cnt : List String → Nat) (fr : Frame) :
    ∃ g, (pipeline e c cnt fr).2 = stNoise e c g ∧ fr <+: g :=
  ⟨_, rfl, ((((prefix_stTransform e c fr).trans (prefix_stExplode e c _)).trans (prefix_stSub c _)).trans
    (prefix_stInter e c false _ (cnt, _))).trans (prefix_stInter e c true c.is3mr _)⟩

/-- C11-1: the frame handed to the ranking step has the input frame as a prefix, under ANY subset of the flags. -/
theorem append_only (e : Ext) (c : Cfg) (cnt : List String → Nat) (fr : Frame) : fr <+: (pipeline e c cnt fr).2 := by
  obtain ⟨g, hg, hp⟩ := pipeline_noise e c cnt fr
  exact hg ▸ hp.trans (prefix_stNoise e c g)

/-- C11-2 for any row count `n`, and for the empty frame too. -/
theorem rows_pipeline {n : Nat} (e : Ext) (c : Cfg) (cnt : List String → Nat) (fr : Frame) (he : ExtOK e n)
    (hs : SeedsOK e c fr) (h : Rows n fr) : Rows n (pipeline e c cnt fr).2 := by
  have h3 := rows_stSub c hs (rows_stExplode e c he (rows_stTransform e c he h))
  have h5 := rows_stInter e c true c.is3mr (rows_stInter e c false (decide (c.order > 1)) (s := (cnt, _)) h3)
  exact rows_stNoise e c he h5

/-- C11-2: for a well-formed input frame the output frame is well-formed with the SAME number of rows: every
column – old and new – has exactly one value per row, for any subset of the flags. -/
theorem lengths (e : Ext) (c : Cfg) (cnt : List String → Nat) (fr : Frame) (hw : WF fr) (hne : fr ≠ [])
    (he : ExtOK e (nrows fr)) (hs : SeedsOK e c fr) :
    WF (pipeline e c cnt fr).2 ∧ nrows (pipeline e c cnt fr).2 = nrows fr :=
  -- `hne` is not needed: `rows_pipeline` covers the empty frame
  have h := rows_pipeline e c cnt fr he hs ⟨rfl, hw⟩
  ⟨h.wf, h.1⟩

/-- the oracle the driver applies to the implementation's frames (`appendSpecB`) decides "prefix + one value per row" … -/
theorem appendSpecB_iff {inp out : Frame} :
    appendSpecB inp out = true ↔ inp <+: out ∧ ∀ c ∈ out, c.2.length = nrows inp := by
  simp only [appendSpecB, Bool.and_eq_true, decide_eq_true_eq, List.all_eq_true]
  constructor
  · rintro ⟨h1, h2⟩
    exact ⟨h1 ▸ List.take_prefix _ _, h2⟩
  · rintro ⟨h1, h2⟩
    exact ⟨List.prefix_iff_eq_take.mp h1 ▸ rfl, h2⟩

/-- … and accepts the model's output. -/
theorem appendSpecB_model (e : Ext) (c : Cfg) (cnt : List String → Nat) (fr : Frame) (hw : WF fr) (hne : fr ≠ [])
    (he : ExtOK e (nrows fr)) (hs : SeedsOK e c fr) : appendSpecB fr (pipeline e c cnt fr).2 = true :=
  appendSpecB_iff.mpr ⟨append_only e c cnt fr, (rows_pipeline e c cnt fr he hs ⟨rfl, hw⟩).2⟩

/-- C11-5: the target control column replicates the label column (same values, same row order), also through the whole
pipeline: `CONTROL-target` holds the ORIGINAL label column. -/
theorem control_target (e : Ext) (c : Cfg) (cnt : List String → Nat) (fr : Frame) (hn : c.noise = true)
    (hk : c.constant = false) (hl : c.label ∈ names fr) : ("CONTROL-target", colOf fr c.label) ∈ (pipeline e c cnt fr).2 := by
  -- the frame the noise step sees extends `fr`, so the label lookup finds the original column
  obtain ⟨g, hg, blk, rfl⟩ := pipeline_noise e c cnt fr
  have hl' : (names (fr ++ blk)).contains c.label = true := by
    rw [List.contains_iff_mem, names, List.map_append]; exact List.mem_append_left _ hl
  rw [hg, stNoise, hn, hk, if_pos (by rfl), noiseControls, noiseBlock, if_pos hl', colOf_append blk hl]
  simp only [List.mem_append, List.mem_singleton, or_true, true_or]

/-- the names of the control block, in the fixed order of the dict in the code; nothing is claimed about the contents (a
constant column, the row counter `0.0, 1.0, …`, random draws and a row hash, which are opaque) -/
theorem control_names (label : String) (rnd : String → List String) (fr : Frame) :
    names (noiseBlock label rnd fr) =
      ["CONTROL-constant0", "CONTROL-gaussian", "CONTROL-uniform", "CONTROL-random-binary", "CONTROL-random-card100",
       "CONTROL-random-card2k", "CONTROL-random-card10k", "CONTROL-random-card50k", "CONTROL-int-sequence"]
      ++ (if (names fr).contains label then ["CONTROL-target"] else []) ++ ["CONTROL-volume"] := by
  rw [noiseBlock, names, List.map_append, List.map_append, apply_ite (List.map _)]
  rfl

example : (explodeMulti ["", "{}"] (fun _ l => l) ["m"] [("m", ["x,y", "y-z", "", "{}-x"])]) =
    [("m", ["x,y", "y-z", "", "{}-x"]), ("MULTIEX-m-x", ["1", "", "", "1"]), ("MULTIEX-m-y", ["1", "1", "", ""]),
     ("MULTIEX-m-z", ["", "1", "", ""])] := by decide +kernel
example : subfeatures [⟨false, "a", "b"⟩] [("a", ["1", "2", "3"]), ("b", ["x", "y", "x"])] =
    [("a", ["1", "2", "3"]), ("b", ["x", "y", "x"]), ("SUBFEATURE-a&x", ["1ANDx", "", "3ANDx"]),
     ("SUBFEATURE-a&y", ["", "2ANDy", ""])] := by decide +kernel
example : WF [("a", ["1", "2", "3"]), ("b", ["x", "y", "x"])] := Rows.wf (n := 3) ⟨rfl, by decide⟩
example : ExtOK ⟨id, fun _ l => l, fun _ => [], fun _ => ["r", "r"]⟩ 2 :=
  ⟨fun _ _ => List.Perm.refl _, fun _ _ h => (by cases h), fun _ => rfl⟩

end Construct
