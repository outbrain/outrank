import OutrankModel.Lemmas.Pipeline
import OutrankModel.Props.C04
import OutrankModel.Props.C05
import OutrankModel.Props.C06
import OutrankModel.Props.C08
import OutrankModel.Props.C16
/-!
# The end-to-end pipeline model (DESIGN §11.2)

Theorems about `Pipeline.rankFile` (Model/Pipeline.lean) – the function the driver executes at `Float` for the `E2E`
correspondence family.  Every theorem is a COMPOSITION of the per-property theorems (C16 parser round trip, C08 streaming
loop / median aggregation / final sort, C06 pair enumeration and mirrored rows, C05 label orientation and dispatch over
the REGENERATED table, C01 / C03 meaning of the numba scores); nothing about the components is re-proved here.
They hold for ALL headers, line lists, batch sizes ≥ 1, subsampling factors ≥ 1, sampling ratios `rnum / rden` and every
arithmetic `Arith α σ` (the `MI.realOps` statements are the ones that use the C01 / C03 identities over ℝ; those
identities are about the estimator WITHOUT sub-sampling, so these statements carry `c.rnum = 1`, `c.rden = 1`, the exact
value of `--mi_stratified_sampling_ratio 1.0`).  Section 6 is the sub-sampled estimator (`rnum < rden`, C04).
-/
namespace Pipeline
open Stream
-- as in Props/C08: `hs : 1 ≤ c.sub` is carried by the statements and used by no proof (likewise `hb`, `hs` of `pair_once`, `cols` of
-- `label_is_conditioning_side`, `hd` of `pairwise_table_complete`)
set_option linter.unusedVariables false
variable {α σ : Type}

/-! ## 1. the streaming loop disappears -/

/-- the grouped table is the per-pair median aggregation of the mirrored triplets of the batches of the
chunking specification of the (parsed, selected, valid) lines; `pairwise_ranks.tsv` is that table sorted ascending; the
invalid counter and the number of ranked batches are the specification's (C08 `stream_spec`). -/
theorem rankFile_spec (ar : Arith α σ) (rules : List (C05.Cond × C05.Callee)) (cn : String) (c : Cfg)
    (hb : 1 ≤ c.batch) (hs : 1 ≤ c.sub) (header : C16.Str) (lines : List C16.Str) :
    (rankFile ar rules cn c header lines).grouped = aggregate keyLe ar.ord (specRows ar rules cn c header lines) ∧
    (rankFile ar rules cn c header lines).table
      = finalTable ar.ord (aggregate keyLe ar.ord (specRows ar rules cn c header lines)) ∧
    (rankFile ar rules cn c header lines).invalid = (chunkSpec c.stream (parsedLines header lines)).invalid ∧
    (rankFile ar rules cn c header lines).batches = (specBatches c header lines).length := by
  have h := C08.stream_spec c.stream hb hs (parsedLines header lines)
  simp only [rankFile, rankRows, specRows, specBatches, h, and_self]

/-- the same in terms of C08's composite `Stream.rank` (the function of C08 `rank_spec`): grouped table and invalid count
ARE, definitionally, its first and last component with the batch scorer `batchRows` -/
theorem rankFile_is_stream_rank (ar : Arith α σ) (rules : List (C05.Cond × C05.Callee)) (cn : String) (c : Cfg)
    (hb : 1 ≤ c.batch) (hs : 1 ≤ c.sub) (header : C16.Str) (lines : List C16.Str) :
    ((rankFile ar rules cn c header lines).grouped, (rankFile ar rules cn c header lines).invalid)
      = ((rank c.stream keyLe ar.ord c.constant (batchRows ar rules cn c (headerCols header))
            (parsedLines header lines)).1,
         (rank c.stream keyLe ar.ord c.constant (batchRows ar rules cn c (headerCols header))
            (parsedLines header lines)).2.2) ∧
    (rank c.stream keyLe ar.ord c.constant (batchRows ar rules cn c (headerCols header)) (parsedLines header lines)).1
      = aggregate keyLe ar.ord (specRows ar rules cn c header lines) :=
  ⟨rfl, (rankFile_spec ar rules cn c hb hs header lines).1⟩

/-- what the batches of the specification are, definitionally (`Stream.chunkSpec`) -/
theorem specBatches_are_chunks (c : Cfg) (header : C16.Str) (lines : List C16.Str) :
    specBatches c header lines =
      fullChunks c.batch (validOf (selected c.sub (parsedLines header lines))) ++
        (if 1024 < (remainder c.batch (validOf (selected c.sub (parsedLines header lines)))).length
         then [remainder c.batch (validOf (selected c.sub (parsedLines header lines)))] else []) := rfl

/-- the invalid counter = number of SELECTED lines whose csv field count differs from the header's (C08 `tail_and_invalid`) -/
theorem invalid_count (ar : Arith α σ) (rules : List (C05.Cond × C05.Callee)) (cn : String) (c : Cfg)
    (hb : 1 ≤ c.batch) (hs : 1 ≤ c.sub) (header : C16.Str) (lines : List C16.Str) :
    (rankFile ar rules cn c header lines).invalid
      = ((selected c.sub lines).filter fun l =>
          !((C16.csvParseD l).length == (headerCols header).length)).length := by
  have h : (rankFile ar rules cn c header lines).invalid = _ :=
    (C08.tail_and_invalid c.stream hb hs (parsedLines header lines)).2
  rw [h, parsedLines, selected_map, List.filter_map, List.length_map]
  rfl

/-! ## 2. every row is the median of the per-batch scores of its pair; each pair once; ascending -/

/-- a row `((a, b), s)` is in `pairwise_ranks.tsv` iff some batch of the specification emits a
row for `(a, b)` and `s` is the median of the scores the batches give to `(a, b)`, batch after batch
(C08 `aggregate_is_median`; the final sort only permutes the rows: `Stream.mem_finalTable`). -/
theorem pair_score_is_median (ar : Arith α σ) (rules : List (C05.Cond × C05.Callee)) (cn : String) (c : Cfg)
    (hb : 1 ≤ c.batch) (hs : 1 ≤ c.sub) (header : C16.Str) (lines : List C16.Str) (a b : String) (s : σ) :
    ((a, b), s) ∈ (rankFile ar rules cn c header lines).table ↔
      (∃ rows ∈ specBatches c header lines, ∃ s', ((a, b), s') ∈ batchRows ar rules cn c (headerCols header) rows) ∧
      s = median ar.ord
            ((specBatches c header lines).map fun rows =>
              scoresOf (batchRows ar rules cn c (headerCols header) rows) (a, b)).flatten := by
  rw [(rankFile_spec ar rules cn c hb hs header lines).2.1, mem_finalTable, C08.aggregate_is_median, specRows,
    scoresOf_flatten]
  simp only [List.mem_flatten, List.mem_map, exists_exists_and_eq_and]
  rw [exists_comm]
  simp only [exists_and_left]

/-- every score of `pairwise_ranks.tsv` is the median of a non-empty list of per-batch scores, each emitted for that
pair by a batch of the chunk specification (`pair_score_is_median` in the form the `table_score_…` theorems use) -/
theorem table_score_from_batches (ar : Arith α σ) (rules : List (C05.Cond × C05.Callee)) (cn : String) (c : Cfg)
    (hb : 1 ≤ c.batch) (hs : 1 ≤ c.sub) (header : C16.Str) (lines : List C16.Str) (a b : String) (s : σ)
    (h : ((a, b), s) ∈ (rankFile ar rules cn c header lines).table) :
    ∃ scores : List σ, s = median ar.ord scores ∧ scores ≠ [] ∧
      ∀ x ∈ scores, ∃ rows ∈ specBatches c header lines,
        ((a, b), x) ∈ batchRows ar rules cn c (headerCols header) rows := by
  obtain ⟨⟨rows0, hrows0, s0, hm0⟩, hmed⟩ := (pair_score_is_median ar rules cn c hb hs header lines a b s).mp h
  refine ⟨_, hmed, fun e => ?_, fun x hx => ?_⟩
  · exact scoresOf_ne_nil.mpr ⟨s0, hm0⟩ (List.flatten_eq_nil_iff.mp e _ (List.mem_map.mpr ⟨rows0, hrows0, rfl⟩))
  · obtain ⟨l, hl, hxl⟩ := List.mem_flatten.mp hx
    obtain ⟨rows, hrows, rfl⟩ := List.mem_map.mp hl
    exact ⟨rows, hrows, mem_scoresOf.mp hxl⟩

/-- `pairwise_ranks.tsv` is in ascending score order and has exactly the rows of the grouped table (C08 `final_sorted`) -/
theorem table_sorted (ar : Arith α σ) (ho : LinOrd ar.ord.le) (rules : List (C05.Cond × C05.Callee)) (cn : String)
    (c : Cfg) (header : C16.Str) (lines : List C16.Str) :
    (rankFile ar rules cn c header lines).table.Perm (rankFile ar rules cn c header lines).grouped ∧
    (rankFile ar rules cn c header lines).table.Pairwise (fun x y => ar.ord.le x.2 y.2 = true) := by
  rw [rankFile_table]
  exact C08.final_sorted ar.ord ho _

/-- the grouped frame lists its pairs in `groupby` order: lexicographic on (FeatureA, FeatureB), code-point order on
each name, no pair twice (C08 `aggregate_keys_sorted`; `keyLe` is a linear order) -/
theorem grouped_keys_sorted (ar : Arith α σ) (rules : List (C05.Cond × C05.Callee)) (cn : String) (c : Cfg)
    (header : C16.Str) (lines : List C16.Str) :
    ((rankFile ar rules cn c header lines).grouped.map (·.1)).Nodup ∧
    ((rankFile ar rules cn c header lines).grouped.map (·.1)).Pairwise (fun x y => keyLe x y = true) := by
  rw [rankFile_grouped]
  exact C08.aggregate_keys_sorted keyLe keyLe_linOrd ar.ord _

theorem pair_once (ar : Arith α σ) (rules : List (C05.Cond × C05.Callee)) (cn : String) (c : Cfg)
    (hb : 1 ≤ c.batch) (hs : 1 ≤ c.sub) (header : C16.Str) (lines : List C16.Str) :
    ((rankFile ar rules cn c header lines).table.map (·.1)).Nodup := by
  rw [rankFile_table, ((finalTable_perm ar.ord _).map _).nodup_iff]
  exact (grouped_keys_sorted ar rules cn c header lines).1

/-! ## 3. the per-batch score of a pair is the selected heuristic on the category codes of the two columns -/

/-- all heuristics but `Constant`, every arithmetic, every sampling ratio: the rows of a
batch are exactly, for every requested pair `p` (C06 `combos`), the two orientations of `p`, both carrying the score of
C05's `triplet` of the batch's frame – label oriented to the conditioning side, dispatch through `rules`, category codes
of the two columns, the configured ratio handed to the scorer (C06 `rows_of_evaluated` / `rows_only_evaluated` say the
same of C06's copy of `mirror`). -/
theorem batch_score_is_heuristic (ar : Arith α σ) (rules : List (C05.Cond × C05.Callee)) (cn : String) (c : Cfg)
    (hc : c.constant = false) (cols : List String) (rows : List (List C16.Str)) (k : String × String) (s : σ) :
    (k, s) ∈ batchRows ar rules cn c cols rows ↔
      ∃ p ∈ pairs c cols, (k = p ∨ k = (p.2, p.1)) ∧
        s = ar.emb (C05.triplet ar.mi rules cn (frame cols rows) c.label c.heuristic c.rnum c.rden p).2.2 := by
  rw [batchRows_eq_canon ar rules cn c hc, mem_canonRows]
  rfl

theorem scored_columns_full (c : Cfg) (cols : List String) (hl : c.label ∈ cols) (rows : List (List C16.Str))
    (p : String × String) (hp : p ∈ pairs c cols) :
    (C05.column (frame cols rows) (C05.orient p c.label).1).length = rows.length ∧
    (C05.column (frame cols rows) (C05.orient p c.label).2).length = rows.length := by
  have hn := C06.combos_names hl c.targetOnly c.is3mr hp
  obtain ⟨a, b⟩ := p
  rcases C05.orient_same_columns a b c.label with h | h <;> rw [h]
  · exact ⟨frame_column_length cols rows _ hn.1, frame_column_length cols rows _ hn.2⟩
  · exact ⟨frame_column_length cols rows _ hn.2, frame_column_length cols rows _ hn.1⟩

/-- `MI-numba-3mr` over ℝ at sampling ratio 1 (`1 / 1`), regenerated dispatch table: every row of a non-empty batch carries the PLUG-IN MUTUAL
INFORMATION of the category codes of its two columns (C05 `triplet_scores`, C01 `estimator_eq_plugin`). -/
theorem batch_score_3mr (ord : Ops σ) (emb : C05.Score ℝ → σ) (c : Cfg) (h3 : c.heuristic = "MI-numba-3mr")
    (hr1 : c.rnum = 1) (hr2 : c.rden = 1) (cols : List String) (hl : c.label ∈ cols) (rows : List (List C16.Str)) (hr : rows ≠ [])
    (k : String × String) (s : σ)
    (hm : (k, s) ∈ batchRows ⟨MI.realOps, ord, emb⟩ C05.Gen.rules C05.Gen.correctionName c cols rows) :
    ∃ p ∈ pairs c cols, (k = p ∨ k = (p.2, p.1)) ∧
      s = emb (.val (MI.miPlugin
            (C05.catCodes (C05.column (frame cols rows) (C05.orient p c.label).1))
            (C05.catCodes (C05.column (frame cols rows) (C05.orient p c.label).2)))) := by
  have hc : c.constant = false := by simp only [Cfg.constant, h3]; decide +kernel
  obtain ⟨p, hp, hk, rfl⟩ := (batch_score_is_heuristic _ _ _ c hc cols rows k s).mp hm
  refine ⟨p, hp, hk, ?_⟩
  have hcol := scored_columns_full c cols hl rows p hp
  have ht := (C05.triplet_scores (frame cols rows) c.label p (hcol.1.trans hcol.2.symm)
    (hcol.2 ▸ List.length_pos_iff.mpr hr)).2.1
  rw [h3, hr1, hr2]
  exact congrArg (fun t => emb t.2.2) ht

/-- `MI-numba-randomized` over ℝ at sampling ratio 1 (`1 / 1`): a row whose two coded columns differ carries `H(F* | L) − H(F | L)` – `F` the first,
`L` the second (conditioning) column of the ORIENTED pair, `F*` the displaced copy – and a row whose two coded columns
coincide carries the entropy of that column (C05 `triplet_scores`, C03 `corrected_identity` / `corrected_self`). -/
theorem batch_score_randomized (ord : Ops σ) (emb : C05.Score ℝ → σ) (c : Cfg)
    (h3 : c.heuristic = "MI-numba-randomized") (hr1 : c.rnum = 1) (hr2 : c.rden = 1) (cols : List String) (hl : c.label ∈ cols)
    (rows : List (List C16.Str)) (hr : rows ≠ []) (k : String × String) (s : σ)
    (hm : (k, s) ∈ batchRows ⟨MI.realOps, ord, emb⟩ C05.Gen.rules C05.Gen.correctionName c cols rows) :
    ∃ p ∈ pairs c cols, (k = p ∨ k = (p.2, p.1)) ∧
      (C05.catCodes (C05.column (frame cols rows) (C05.orient p c.label).1)
          ≠ C05.catCodes (C05.column (frame cols rows) (C05.orient p c.label).2) →
        s = emb (.val (MI.condEntropy
              (MI.ystar (C05.catCodes (C05.column (frame cols rows) (C05.orient p c.label).1))
                        (C05.catCodes (C05.column (frame cols rows) (C05.orient p c.label).2)))
              (C05.catCodes (C05.column (frame cols rows) (C05.orient p c.label).2))
            - MI.condEntropy (C05.catCodes (C05.column (frame cols rows) (C05.orient p c.label).1))
                             (C05.catCodes (C05.column (frame cols rows) (C05.orient p c.label).2))))) ∧
      (C05.catCodes (C05.column (frame cols rows) (C05.orient p c.label).1)
          = C05.catCodes (C05.column (frame cols rows) (C05.orient p c.label).2) →
        s = emb (.val (MI.entropy (C05.catCodes (C05.column (frame cols rows) (C05.orient p c.label).2))))) := by
  have hc : c.constant = false := by simp only [Cfg.constant, h3]; decide +kernel
  obtain ⟨p, hp, hk, rfl⟩ := (batch_score_is_heuristic _ _ _ c hc cols rows k s).mp hm
  have hcol := scored_columns_full c cols hl rows p hp
  have ht := C05.triplet_scores (frame cols rows) c.label p (hcol.1.trans hcol.2.symm)
    (hcol.2 ▸ List.length_pos_iff.mpr hr)
  rw [h3, hr1, hr2]
  exact ⟨p, hp, hk, fun hne => congrArg (fun t => emb t.2.2) (ht.2.2.1 hne),
    fun he => congrArg (fun t => emb t.2.2) (ht.2.2.2.1 he)⟩

/-- the label is never on the first (feature) side of a scoring call: whenever the label is one of the two names of a
requested pair, the oriented pair has the label SECOND (= `vector_second`, the conditioning side) and the other column
first (C05 `orient_label`) -/
theorem label_is_conditioning_side (c : Cfg) (cols : List String) (p : String × String)
    (h : p.1 = c.label ∨ p.2 = c.label) :
    (C05.orient p c.label).2 = c.label ∧ ((C05.orient p c.label).1 = p.1 ∨ (C05.orient p c.label).1 = p.2) :=
  C05.orient_label p.1 p.2 c.label h

/-- every batch of the specification has at least one row (C08 `chunk_sizes`; the tail has more than 1024) -/
theorem spec_batches_nonempty (c : Cfg) (hb : 1 ≤ c.batch) (header : C16.Str) (lines : List C16.Str) :
    ∀ rows ∈ specBatches c header lines, rows ≠ [] := by
  intro rows hrows
  apply List.ne_nil_of_length_pos
  rw [specBatches_are_chunks, List.mem_append, List.mem_ite_nil_right, List.mem_singleton] at hrows
  rcases hrows with h | ⟨hlt, rfl⟩
  · rw [(C08.chunk_sizes c.batch hb _).1 rows h]
    exact hb
  · exact Nat.zero_lt_of_lt hlt

/-- DESIGN §11.2, `MI-numba-3mr`: the score of a row of `pairwise_ranks.tsv` is the MEDIAN, over the batches of the
chunk specification, of the PLUG-IN MUTUAL INFORMATION of the category codes of the row's two columns in that batch. -/
theorem table_score_3mr (ord : Ops σ) (emb : C05.Score ℝ → σ) (c : Cfg) (h3 : c.heuristic = "MI-numba-3mr")
    (hr1 : c.rnum = 1) (hr2 : c.rden = 1) (hb : 1 ≤ c.batch) (hs : 1 ≤ c.sub) (header : C16.Str) (lines : List C16.Str)
    (hl : c.label ∈ headerCols header) (a b : String) (s : σ)
    (h : ((a, b), s) ∈ (rankFile ⟨MI.realOps, ord, emb⟩ C05.Gen.rules C05.Gen.correctionName c header lines).table) :
    ∃ scores : List σ, s = median ord scores ∧ scores ≠ [] ∧
      ∀ x ∈ scores, ∃ rows ∈ specBatches c header lines, ∃ p ∈ pairs c (headerCols header),
        ((a, b) = p ∨ (a, b) = (p.2, p.1)) ∧
        x = emb (.val (MI.miPlugin
              (C05.catCodes (C05.column (frame (headerCols header) rows) (C05.orient p c.label).1))
              (C05.catCodes (C05.column (frame (headerCols header) rows) (C05.orient p c.label).2)))) := by
  obtain ⟨scores, hmed, hne, hall⟩ := table_score_from_batches _ _ _ c hb hs header lines a b s h
  refine ⟨scores, hmed, hne, fun x hx => ?_⟩
  obtain ⟨rows, hrows, hmem⟩ := hall x hx
  exact ⟨rows, hrows, batch_score_3mr ord emb c h3 hr1 hr2 (headerCols header) hl rows
    (spec_batches_nonempty c hb header lines rows hrows) (a, b) x hmem⟩

/-- DESIGN §11.2, `MI-numba-randomized`: the score of a row is the median over the batches of `H(F* | L) − H(F | L)` of
the coded columns of that batch (`L` = second column of the oriented pair = the label whenever the pair contains it),
resp. of the entropy of the column when the two coded columns coincide. -/
theorem table_score_randomized (ord : Ops σ) (emb : C05.Score ℝ → σ) (c : Cfg)
    (h3 : c.heuristic = "MI-numba-randomized") (hr1 : c.rnum = 1) (hr2 : c.rden = 1) (hb : 1 ≤ c.batch) (hs : 1 ≤ c.sub) (header : C16.Str)
    (lines : List C16.Str) (hl : c.label ∈ headerCols header) (a b : String) (s : σ)
    (h : ((a, b), s) ∈ (rankFile ⟨MI.realOps, ord, emb⟩ C05.Gen.rules C05.Gen.correctionName c header lines).table) :
    ∃ scores : List σ, s = median ord scores ∧ scores ≠ [] ∧
      ∀ x ∈ scores, ∃ rows ∈ specBatches c header lines, ∃ p ∈ pairs c (headerCols header),
        ((a, b) = p ∨ (a, b) = (p.2, p.1)) ∧
        let F := C05.catCodes (C05.column (frame (headerCols header) rows) (C05.orient p c.label).1)
        let L := C05.catCodes (C05.column (frame (headerCols header) rows) (C05.orient p c.label).2)
        (F ≠ L → x = emb (.val (MI.condEntropy (MI.ystar F L) L - MI.condEntropy F L))) ∧
        (F = L → x = emb (.val (MI.entropy L))) := by
  obtain ⟨scores, hmed, hne, hall⟩ := table_score_from_batches _ _ _ c hb hs header lines a b s h
  refine ⟨scores, hmed, hne, fun x hx => ?_⟩
  obtain ⟨rows, hrows, hmem⟩ := hall x hx
  exact ⟨rows, hrows, batch_score_randomized ord emb c h3 hr1 hr2 (headerCols header) hl rows
    (spec_batches_nonempty c hb header lines rows hrows) (a, b) x hmem⟩

/-! ## 4. which pairs the table has -/

/-- non-`Constant`: the pairs of the table are the requested pairs in both orientations (as soon as one batch is ranked) -/
theorem table_pairs (ar : Arith α σ) (rules : List (C05.Cond × C05.Callee)) (cn : String) (c : Cfg)
    (hc : c.constant = false) (hb : 1 ≤ c.batch) (hs : 1 ≤ c.sub) (header : C16.Str) (lines : List C16.Str)
    (a b : String) :
    (∃ s, ((a, b), s) ∈ (rankFile ar rules cn c header lines).table) ↔
      specBatches c header lines ≠ [] ∧
        ((a, b) ∈ pairs c (headerCols header) ∨ (b, a) ∈ pairs c (headerCols header)) := by
  simp only [pair_score_is_median ar rules cn c hb hs, batchRows_eq_canon ar rules cn c hc, exists_mem_canonRows,
    exists_and_left, exists_eq, and_true, exists_and_right]
  exact and_congr_left' ⟨fun h => h.elim fun _ => List.ne_nil_of_mem, List.exists_mem_of_ne_nil _⟩

/-- non-`Constant`: both orientations of a pair are present with EQUAL scores (the two orientations receive the same list
of per-batch scores, `scoresOf_canonRows_swap`, hence the same median) -/
theorem both_orientations (ar : Arith α σ) (rules : List (C05.Cond × C05.Callee)) (cn : String) (c : Cfg)
    (hc : c.constant = false) (hb : 1 ≤ c.batch) (hs : 1 ≤ c.sub) (header : C16.Str) (lines : List C16.Str)
    (a b : String) (s : σ) :
    ((a, b), s) ∈ (rankFile ar rules cn c header lines).table ↔
      ((b, a), s) ∈ (rankFile ar rules cn c header lines).table := by
  simp only [pair_score_is_median ar rules cn c hb hs, batchRows_eq_canon ar rules cn c hc, exists_mem_canonRows,
    scoresOf_canonRows_swap _ _ a b, or_comm]

/-- target-only mode (non-3MR heuristic, non-`Constant`): every row of the table has the label as one of its two names,
and it was scored with the label as the conditioning side (C06 `requested_of_mem`, C05 `orient_label`) -/
theorem target_only_rows_have_label (ar : Arith α σ) (rules : List (C05.Cond × C05.Callee)) (cn : String) (c : Cfg)
    (hc : c.constant = false) (ht : c.targetOnly = true) (h3 : c.is3mr = false) (hb : 1 ≤ c.batch) (hs : 1 ≤ c.sub)
    (header : C16.Str) (lines : List C16.Str) (a b : String) (s : σ)
    (h : ((a, b), s) ∈ (rankFile ar rules cn c header lines).table) :
    (a = c.label ∨ b = c.label) ∧
    ∃ p ∈ pairs c (headerCols header), ((a, b) = p ∨ (a, b) = (p.2, p.1)) ∧ (C05.orient p c.label).2 = c.label := by
  obtain ⟨_, hp⟩ := (table_pairs ar rules cn c hc hb hs header lines a b).mp ⟨s, h⟩
  have key : ∀ p ∈ pairs c (headerCols header), p.1 = c.label ∨ p.2 = c.label := fun p hp => by
    rw [pairs, h3] at hp
    exact (C06.requested_of_mem hp).2.2 ht
  rcases hp with hp | hp
  · exact ⟨key _ hp, _, hp, .inl rfl, (C05.orient_label a b c.label (key _ hp)).1⟩
  · exact ⟨(key _ hp).symm, _, hp, .inr rfl, (C05.orient_label b a c.label (key _ hp)).1⟩

/-- pairwise mode (non-3MR, non-`Constant`): the table has EVERY ordered pair of columns, each column with itself
included, and nothing else (C06 `requested_of_mem`, `cover_of_requested`; `hd` is not needed) -/
theorem pairwise_table_complete (ar : Arith α σ) (rules : List (C05.Cond × C05.Callee)) (cn : String) (c : Cfg)
    (hc : c.constant = false) (ht : c.targetOnly = false) (h3 : c.is3mr = false) (hb : 1 ≤ c.batch) (hs : 1 ≤ c.sub)
    (header : C16.Str) (lines : List C16.Str) (hd : (headerCols header).Nodup)
    (hne : specBatches c header lines ≠ []) (a b : String) :
    (∃ s, ((a, b), s) ∈ (rankFile ar rules cn c header lines).table) ↔
      a ∈ headerCols header ∧ b ∈ headerCols header := by
  rw [table_pairs ar rules cn c hc hb hs header lines a b, pairs, ht, h3]
  constructor
  · rintro ⟨_, h | h⟩
    · exact (C06.requested_of_mem h).imp_right And.left
    · exact ((C06.requested_of_mem h).imp_right And.left).symm
  · exact fun h => ⟨hne, C06.cover_of_requested ⟨h.1, h.2, nofun⟩⟩

/-! ## 5. the table is a function of the TABLE of cells, not of the quoting -/

/-- every line written by the csv writer (any quoting choice per cell, cells without line breaks, any terminator made
of line breaks – `"\n"`, `"\r\n"`, none) is parsed back to its row, tagged with "has the header's width"
(C16 `csv_roundtrip`) -/
theorem rendered_rows_parse (header : C16.Str) (quote : Nat → Nat → Bool) (term : Nat → C16.Str)
    (table : List (List C16.Str)) (hcells : ∀ row ∈ table, ∀ x ∈ row, ∀ ch ∈ x, C16.isNL ch = false)
    (hterm : ∀ k, ∀ ch ∈ term k, C16.isNL ch = true) :
    parsedLines header (renderLines quote term table)
      = table.map fun r => (r.length == (headerCols header).length, r) := by
  rw [parsedLines, renderLines, List.map_map]
  exact map_zipIdx_of_fst _ _ _ _ fun p hp =>
    parseLine_render _ (quote p.2) p.1 (hcells p.1 (List.fst_mem_of_mem_zipIdx hp)) (term p.2) (hterm p.2)

/-- if the file's lines are renderings of a table of cells with the header's width, the
rows entering the batches are exactly the table's (selected) rows, unchanged and in order: the batches are the chunks
of the selected rows of the TABLE and no line is invalid (C16 `csv_roundtrip` composed with the validity test and
C08 `stream_spec`). -/
theorem rendered_table_roundtrip (ar : Arith α σ) (rules : List (C05.Cond × C05.Callee)) (cn : String) (c : Cfg)
    (hb : 1 ≤ c.batch) (hs : 1 ≤ c.sub) (header : C16.Str) (quote : Nat → Nat → Bool) (term : Nat → C16.Str)
    (table : List (List C16.Str)) (hcells : ∀ row ∈ table, ∀ x ∈ row, ∀ ch ∈ x, C16.isNL ch = false)
    (hterm : ∀ k, ∀ ch ∈ term k, C16.isNL ch = true)
    (hwidth : ∀ row ∈ table, row.length = (headerCols header).length) :
    validOf (selected c.sub (parsedLines header (renderLines quote term table))) = selected c.sub table ∧
    specBatches c header (renderLines quote term table) =
      fullChunks c.batch (selected c.sub table) ++
        (if 1024 < (remainder c.batch (selected c.sub table)).length
         then [remainder c.batch (selected c.sub table)] else []) ∧
    (rankFile ar rules cn c header (renderLines quote term table)).invalid = 0 := by
  have hp : parsedLines header (renderLines quote term table) = table.map fun r => (true, r) := by
    rw [rendered_rows_parse header quote term table hcells hterm]
    exact List.map_congr_left fun r hr => by rw [hwidth r hr, beq_self_eq_true]
  have hv : validOf (selected c.sub (parsedLines header (renderLines quote term table))) = selected c.sub table := by
    rw [hp, selected_map, validOf_map_true]
  refine ⟨hv, ?_, ?_⟩
  · rw [specBatches_are_chunks, hv]
  · rw [(rankFile_spec ar rules cn c hb hs header _).2.2.1]
    simp only [chunkSpec, Cfg.stream, hp, selected_map, validOf_map_true, List.length_map, Nat.sub_self]

/-- hence the whole result is a function of the table of cells: `rankRows` applied to the table's rows themselves
(each tagged with "has the header's width") … -/
theorem rankFile_of_table (ar : Arith α σ) (rules : List (C05.Cond × C05.Callee)) (cn : String) (c : Cfg)
    (header : C16.Str) (quote : Nat → Nat → Bool) (term : Nat → C16.Str) (table : List (List C16.Str))
    (hcells : ∀ row ∈ table, ∀ x ∈ row, ∀ ch ∈ x, C16.isNL ch = false)
    (hterm : ∀ k, ∀ ch ∈ term k, C16.isNL ch = true) :
    rankFile ar rules cn c header (renderLines quote term table)
      = rankRows ar rules cn c (headerCols header)
          (table.map fun r => (r.length == (headerCols header).length, r)) := by
  unfold rankFile
  rw [rendered_rows_parse header quote term table hcells hterm]

/-- … so two writers that differ in their quoting choices and line terminators produce the same ranking -/
theorem quoting_irrelevant (ar : Arith α σ) (rules : List (C05.Cond × C05.Callee)) (cn : String) (c : Cfg)
    (header : C16.Str) (quote quote' : Nat → Nat → Bool) (term term' : Nat → C16.Str) (table : List (List C16.Str))
    (hcells : ∀ row ∈ table, ∀ x ∈ row, ∀ ch ∈ x, C16.isNL ch = false)
    (hterm : ∀ k, ∀ ch ∈ term k, C16.isNL ch = true) (hterm' : ∀ k, ∀ ch ∈ term' k, C16.isNL ch = true) :
    rankFile ar rules cn c header (renderLines quote term table)
      = rankFile ar rules cn c header (renderLines quote' term' table) := by
  rw [rankFile_of_table ar rules cn c header quote term table hcells hterm,
    rankFile_of_table ar rules cn c header quote' term' table hcells hterm']

/-! ## 6. the sub-sampled estimator (`--mi_stratified_sampling_ratio` = `rnum / rden` < 1; C04) -/

theorem numba_not_constant (c : Cfg) (hn : C05.infixB "MI-numba".toList c.heuristic.toList = true) :
    c.constant = false := by
  unfold Cfg.constant
  cases e : c.heuristic == "Constant" with
  | false => rfl
  | true => rw [beq_iff_eq.1 e] at hn; exact absurd hn (by decide +kernel)

/-- C04 `subsample_safe` inside the estimator, every arithmetic: below ratio 1 the estimator IS its core applied to the
stated sample `MI.sampleSpec` (whatever the uninitialised index buffer held) -/
theorem estimator_subsampled (o : MI.Ops α) (Y X : List Nat) (rnum rden : Nat) (cc : Bool) (h : Y.length = X.length)
    (hr : rnum < rden) :
    MI.estimator o Y X rnum rden cc
      = .ok (MI.estimatorCore o X (MI.sampleSpec Y X rnum rden).1 (MI.sampleSpec Y X rnum rden).2 rnum rden cc) := by
  unfold MI.estimator
  rw [if_pos hr, MI.subsample_safe (fun _ => 0) Y X rnum rden h]

theorem coded_columns_full (c : Cfg) (cols : List String) (hl : c.label ∈ cols) (rows : List (List C16.Str))
    (p : String × String) (hp : p ∈ pairs c cols) :
    (C05.catCodes (C05.column (frame cols rows) (C05.orient p c.label).1)).length = rows.length ∧
    (C05.catCodes (C05.column (frame cols rows) (C05.orient p c.label).2)).length = rows.length := by
  rw [C05.catCodes_length, C05.catCodes_length]
  exact scored_columns_full c cols hl rows p hp

/-- `MI-numba` family, every arithmetic, regenerated dispatch table, `rnum < rden`:
the rows of a batch are exactly, for every requested pair `p`, the two orientations of `p`, both carrying the
ESTIMATOR CORE (`MI.estimatorCore`: strata / counts of the FULL conditioning column `B`, entropies of the sample,
result scaled by `rnum / rden`) applied to the stated sample `MI.sampleSpec A B` of the category codes `A`, `B` of the
ORIENTED pair (label second) – i.e. `MI.estimator A B rnum rden flag` with its memory model discharged
(C05 `numba_family`, `orient`; C04 `subsample_safe`).  What the sample is: `batch_sample_rows`. -/
theorem batch_score_subsampled (ar : Arith α σ) (c : Cfg)
    (hn : C05.infixB "MI-numba".toList c.heuristic.toList = true) (hr : c.rnum < c.rden)
    (cols : List String) (hl : c.label ∈ cols) (rows : List (List C16.Str)) (k : String × String) (s : σ) :
    (k, s) ∈ batchRows ar C05.Gen.rules C05.Gen.correctionName c cols rows ↔
      ∃ p ∈ pairs c cols, (k = p ∨ k = (p.2, p.1)) ∧
        let A := C05.catCodes (C05.column (frame cols rows) (C05.orient p c.label).1)
        let B := C05.catCodes (C05.column (frame cols rows) (C05.orient p c.label).2)
        MI.estimator ar.mi A B c.rnum c.rden (C05.correctionFlag C05.Gen.correctionName c.heuristic)
          = .ok (MI.estimatorCore ar.mi B (MI.sampleSpec A B c.rnum c.rden).1 (MI.sampleSpec A B c.rnum c.rden).2
                  c.rnum c.rden (C05.correctionFlag C05.Gen.correctionName c.heuristic)) ∧
        s = ar.emb (.val (MI.estimatorCore ar.mi B (MI.sampleSpec A B c.rnum c.rden).1
              (MI.sampleSpec A B c.rnum c.rden).2 c.rnum c.rden
              (C05.correctionFlag C05.Gen.correctionName c.heuristic))) := by
  rw [batch_score_is_heuristic ar _ _ c (numba_not_constant c hn) cols rows k s]
  refine exists_congr fun p => and_congr_right fun hp => and_congr_right fun _ => ?_
  have hlen := coded_columns_full c cols hl rows p hp
  have he := estimator_subsampled ar.mi _ _ c.rnum c.rden (C05.correctionFlag C05.Gen.correctionName c.heuristic)
    (hlen.1.trans hlen.2.symm) hr
  simp only [C05.triplet_eq, C05.numba_family c.heuristic hn, C05.scoreOf, he, true_and]

/-- what the sample of a scoring call is (C04 `sampleSpec`, `sampledRows_valid`, `sampledRows_quota`): for the coded
columns `A`, `B` of an oriented requested pair, the sample is `A` and `B` read at the row numbers
`MI.sampledRows B rnum rden`; these are pairwise different rows of the batch; with
`quota = ⌊⌊rnum·n / rden⌋ / #values of B⌋` (n = rows of the batch) they are ALL rows when the quota is 0, and otherwise,
for every value `x` of the conditioning column, exactly the FIRST `quota` rows of the batch carrying `x`. -/
theorem batch_sample_rows (c : Cfg) (cols : List String) (hl : c.label ∈ cols) (rows : List (List C16.Str))
    (p : String × String) (hp : p ∈ pairs c cols) :
    let A := C05.catCodes (C05.column (frame cols rows) (C05.orient p c.label).1)
    let B := C05.catCodes (C05.column (frame cols rows) (C05.orient p c.label).2)
    let q := MI.quota rows.length (MI.vals B).length c.rnum c.rden
    MI.sampleSpec A B c.rnum c.rden
      = ((MI.sampledRows B c.rnum c.rden).filterMap (A.toArray[·]?),
         (MI.sampledRows B c.rnum c.rden).filterMap (B.toArray[·]?)) ∧
    (∀ i ∈ MI.sampledRows B c.rnum c.rden, i < rows.length) ∧ (MI.sampledRows B c.rnum c.rden).Nodup ∧
    (q = 0 → MI.sampledRows B c.rnum c.rden = List.range rows.length) ∧
    (q ≠ 0 → ∀ x, (MI.sampledRows B c.rnum c.rden).filter (fun i => B[i]? == some x) = (MI.positions B x).take q) := by
  rw [← (coded_columns_full c cols hl rows p hp).2]
  intro A B q
  have hv := MI.sampledRows_valid B c.rnum c.rden
  exact ⟨rfl, hv.1, hv.2, fun hq => if_pos hq, fun hq x => MI.sampledRows_quota B c.rnum c.rden x hq⟩

/-- C04 `score_sample_only` through the pipeline: two batches that give a requested pair
the same coded conditioning column and coded feature columns that agree on the SAMPLED rows give the pair the same
score – feature values outside the sample do not matter (`MI-numba` family, `rnum < rden`, every arithmetic). -/
theorem batch_score_sample_only (ar : Arith α σ) (c : Cfg)
    (hn : C05.infixB "MI-numba".toList c.heuristic.toList = true) (hr : c.rnum < c.rden)
    (cols : List String) (hl : c.label ∈ cols) (rows rows' : List (List C16.Str))
    (p : String × String) (hp : p ∈ pairs c cols)
    (hB : C05.catCodes (C05.column (frame cols rows) (C05.orient p c.label).2)
        = C05.catCodes (C05.column (frame cols rows') (C05.orient p c.label).2))
    (hA : ∀ i ∈ MI.sampledRows (C05.catCodes (C05.column (frame cols rows) (C05.orient p c.label).2)) c.rnum c.rden,
      (C05.catCodes (C05.column (frame cols rows) (C05.orient p c.label).1))[i]?
        = (C05.catCodes (C05.column (frame cols rows') (C05.orient p c.label).1))[i]?) :
    scorePair ar C05.Gen.rules C05.Gen.correctionName c (C05.codeFrame (frame cols rows)) p
      = scorePair ar C05.Gen.rules C05.Gen.correctionName c (C05.codeFrame (frame cols rows')) p := by
  have h1 := coded_columns_full c cols hl rows p hp
  have h2 := coded_columns_full c cols hl rows' p hp
  have hn' : rows'.length = rows.length := by rw [← h2.2, ← hB, h1.2]
  simp only [scorePair, C05.tripletC, C05.codesOf_codeFrame, C05.numba_family c.heuristic hn, C05.scoreOf]
  rw [← hB, MI.score_sample_only ar.mi _ _ _ c.rnum c.rden _ (h1.1.trans h1.2.symm)
    (h2.1.trans (hn'.trans h1.2.symm)) hr hA]

/-- at ratio 1 (more generally `rden ≤ rnum`) nothing is sampled, for every arithmetic: the score is the estimator core
on the whole coded columns (this is what the driver runs at `Float` for `--mi_stratified_sampling_ratio 1.0`) -/
theorem batch_score_unsampled (ar : Arith α σ) (c : Cfg)
    (hn : C05.infixB "MI-numba".toList c.heuristic.toList = true) (hr : c.rden ≤ c.rnum)
    (cols : List String) (rows : List (List C16.Str)) (k : String × String) (s : σ) :
    (k, s) ∈ batchRows ar C05.Gen.rules C05.Gen.correctionName c cols rows ↔
      ∃ p ∈ pairs c cols, (k = p ∨ k = (p.2, p.1)) ∧
        let A := C05.catCodes (C05.column (frame cols rows) (C05.orient p c.label).1)
        let B := C05.catCodes (C05.column (frame cols rows) (C05.orient p c.label).2)
        s = ar.emb (.val (MI.estimatorCore ar.mi B A B c.rnum c.rden
              (C05.correctionFlag C05.Gen.correctionName c.heuristic))) := by
  rw [batch_score_is_heuristic ar _ _ c (numba_not_constant c hn) cols rows k s]
  refine exists_congr fun p => and_congr_right fun _ => and_congr_right fun _ => ?_
  simp only [C05.triplet_eq, C05.numba_family c.heuristic hn, C05.scoreOf, MI.estimator, if_neg (Nat.not_lt.mpr hr)]

/-- DESIGN §11.2 with `--mi_stratified_sampling_ratio` < 1 (`MI-numba` family, every arithmetic): the score of a row of
`pairwise_ranks.tsv` is the MEDIAN, over the batches of the chunk specification, of the estimator core applied to the
per-stratum first-quota sample (`batch_sample_rows`) of the category codes of the row's two columns in that batch,
label on the conditioning side. -/
theorem table_score_subsampled (ar : Arith α σ) (c : Cfg)
    (hn : C05.infixB "MI-numba".toList c.heuristic.toList = true) (hr : c.rnum < c.rden)
    (hb : 1 ≤ c.batch) (hs : 1 ≤ c.sub) (header : C16.Str) (lines : List C16.Str)
    (hl : c.label ∈ headerCols header) (a b : String) (s : σ)
    (h : ((a, b), s) ∈ (rankFile ar C05.Gen.rules C05.Gen.correctionName c header lines).table) :
    ∃ scores : List σ, s = median ar.ord scores ∧ scores ≠ [] ∧
      ∀ x ∈ scores, ∃ rows ∈ specBatches c header lines, ∃ p ∈ pairs c (headerCols header),
        ((a, b) = p ∨ (a, b) = (p.2, p.1)) ∧
        let A := C05.catCodes (C05.column (frame (headerCols header) rows) (C05.orient p c.label).1)
        let B := C05.catCodes (C05.column (frame (headerCols header) rows) (C05.orient p c.label).2)
        x = ar.emb (.val (MI.estimatorCore ar.mi B (MI.sampleSpec A B c.rnum c.rden).1
              (MI.sampleSpec A B c.rnum c.rden).2 c.rnum c.rden
              (C05.correctionFlag C05.Gen.correctionName c.heuristic))) := by
  obtain ⟨scores, hmed, hne, hall⟩ := table_score_from_batches ar _ _ c hb hs header lines a b s h
  refine ⟨scores, hmed, hne, fun x hx => ?_⟩
  obtain ⟨rows, hrows, hmem⟩ := hall x hx
  obtain ⟨p, hp, hk, _, hx'⟩ := (batch_score_subsampled ar c hn hr (headerCols header) hl rows (a, b) x).mp hmem
  exact ⟨rows, hrows, p, hp, hk, hx'⟩

/-! ## non-vacuity -/

-- a concrete file (kernel-evaluated; toy arithmetic, exact `max-value-coverage` scores): B = 2, one quoted cell, one
-- line with three fields (invalid), last line without terminator; two batches; medians over the two batches
-- (the run is evaluated once, under a name: the example of the summary stage starts from this table as well)
theorem Toy.run_example :
    let r := rankFile Toy.arith C05.Gen.rules C05.Gen.correctionName ⟨2, 1, "max-value-coverage", "label", true, 1, 1⟩
      "a,label\n".toList ["x,1\n".toList, "\"x\",1\n".toList, "y,0,0\n".toList, "y,0\n".toList, "x,0".toList]
    r.table = [(("a", "label"), (3 : Rat) / 4), (("label", "a"), (3 : Rat) / 4), (("label", "label"), 1)] ∧
      r.invalid = 1 ∧ r.batches = 2 := by
  -- the literal's characters without kernel decoding (BUILDING.md, "String literals")
  rw [String.toList_ofList, String.toList_ofList, String.toList_ofList, String.toList_ofList, String.toList_ofList,
    String.toList_ofList]
  decide +kernel
example : (rankFile Toy.arith C05.Gen.rules C05.Gen.correctionName ⟨2, 1, "max-value-coverage", "label", true, 1, 1⟩
      "a,label\n".toList ["x,1\n".toList, "\"x\",1\n".toList, "y,0,0\n".toList, "y,0\n".toList, "x,0".toList]).table
    = [(("a", "label"), (3 : Rat) / 4), (("label", "a"), (3 : Rat) / 4), (("label", "label"), 1)] :=
  Toy.run_example.1
example : ((rankFile Toy.arith C05.Gen.rules C05.Gen.correctionName ⟨2, 1, "max-value-coverage", "label", true, 1, 1⟩
      "a,label\n".toList ["x,1\n".toList, "\"x\",1\n".toList, "y,0,0\n".toList, "y,0\n".toList, "x,0".toList]).invalid,
    (rankFile Toy.arith C05.Gen.rules C05.Gen.correctionName ⟨2, 1, "max-value-coverage", "label", true, 1, 1⟩
      "a,label\n".toList ["x,1\n".toList, "\"x\",1\n".toList, "y,0,0\n".toList, "y,0\n".toList, "x,0".toList]).batches)
    = (1, 2) := congr (congrArg Prod.mk Toy.run_example.2.1) Toy.run_example.2.2
-- the hypotheses of the theorems are satisfiable together
example : let c : Cfg := ⟨2, 1, "MI-numba-3mr", "label", false, 1, 1⟩
    1 ≤ c.batch ∧ 1 ≤ c.sub ∧ c.constant = false ∧ c.is3mr = true ∧ c.label ∈ headerCols "a,label\n".toList
      ∧ (headerCols "a,label\n".toList).Nodup ∧ c.rnum = 1 ∧ c.rden = 1 := by
  dsimp only [Cfg.is3mr]; rw [String.toList_ofList, String.toList_ofList, String.toList_ofList]; decide +kernel
example : let c : Cfg := ⟨64, 3, "MI-numba-randomized", "label", true, 1, 1⟩
    c.constant = false ∧ c.is3mr = false ∧ c.targetOnly = true := by
  dsimp only [Cfg.is3mr]; rw [String.toList_ofList, String.toList_ofList]; decide +kernel
example : specBatches ⟨2, 1, "MI-numba-randomized", "label", true, 1, 1⟩ "a,label\n".toList
    ["x,1\n".toList, "y,0,0\n".toList, "y,0\n".toList] ≠ [] := by
  rw [String.toList_ofList, String.toList_ofList, String.toList_ofList, String.toList_ofList]; decide +kernel
example : renderLines (fun k i => k == 1 && i == 0) (fun k => if k == 0 then "\r\n".toList else [])
      ["x,y".toList :: ["1".toList], ["z".toList, "".toList]]
    = ["\"x,y\",1\r\n".toList, "\"z\",".toList] := by
  rw [String.toList_ofList, String.toList_ofList, String.toList_ofList, String.toList_ofList, String.toList_ofList,
    String.toList_ofList, String.toList_ofList]
  decide +kernel
example : LinOrd Toy.arith.ord.le := C08.ratOps_linOrd
-- non-vacuity: a ratio below 1 (the float32 value of 0.9), the `MI-numba` family, a sample that is a proper part
example : let c : Cfg := ⟨64, 1, "MI-numba-randomized", "label", true, 15099494, 16777216⟩
    C05.infixB "MI-numba".toList c.heuristic.toList = true ∧ c.rnum < c.rden ∧ c.constant = false := by
  dsimp only; rw [String.toList_ofList, String.toList_ofList]; decide +kernel
example : MI.sampledRows [0, 0, 0, 1] 3 4 = [0, 3] ∧
    MI.sampleSpec [5, 6, 7, 8] [0, 0, 0, 1] 3 4 = ([5, 8], [0, 1]) := by
  simp only [MI.sampleSpec, MI.sampledRows, MI.Smp.vals_example]
  decide +kernel


end Pipeline
