import OutrankModel.Gen.Src.C14
import OutrankModel.Model.C14
import OutrankModel.Lemmas.Bridge
/-!
Source tie of C14 (DESIGN §11.1): the integer / boolean expressions of `HyperLogLogWCache` as the source states them NOW
(`Gen/Src/C14.lean`, regenerated on every run) equal what the hand-written model `Model/C14.lean` computes.
-/
namespace Src.C14
open Gen.Src.C14

/-- `self.p = 19` -/
theorem p_is_19 : p = 19 := by decide

/-- `self.m = 1 << self.p` is `2^p` -/
theorem m_pow (k : Nat) : m (k : Int) = ((2 ^ k : Nat) : Int) := by
  simp [m, Py.shl]

/-- `self.warmup_size = int(self.m / 2)`: the exact range of the property is `2^18` values -/
theorem capacity_is_2_pow_18 : warmupSize (m p) = 262144 := by decide

theorem warmup_half (k : Nat) : warmupSize (m ((k + 1 : Nat) : Int)) = ((2 ^ k : Nat) : Int) := by
  rw [m_pow]
  simp only [warmupSize, Py.truncdiv]
  rw [Nat.pow_succ]
  norm_cast
  simp

/-- the phase switch `len(self.warmup_set) > self.warmup_size` is the model's `c.W < s'.length` (insert first, then test) -/
theorem switch_model (n W : Nat) : switch (n : Int) (W : Int) = decide (W < n) := by
  unfold switch; bridge

/-- `j = x & (self.m - 1)` is `x mod 2^p` -/
theorem bucket_mod (x k : Nat) : bucket (x : Int) (m (k : Int)) = ((x % 2 ^ k : Nat) : Int) := by
  rw [m_pow]
  have h : (((2 ^ k : Nat) : Int) - 1).toNat = 2 ^ k - 1 := Int.toNat_sub (2 ^ k) 1
  simp only [bucket, Py.band, h, Int.toNat_natCast, Nat.and_two_pow_sub_one_eq_mod]

/-- `w = x >> self.p` is `x / 2^p` -/
theorem rest_div (x k : Nat) : rest (x : Int) (k : Int) = ((x / 2 ^ k : Nat) : Int) := by
  simp only [rest, Py.shr, Int.toNat_natCast]
  have : ((2 : Int) ^ k) = ((2 ^ k : Nat) : Int) := by norm_cast
  rw [this, Int.fdiv_eq_ediv_of_nonneg _ (by exact Int.natCast_nonneg _)]
  norm_cast

theorem bitLength_model (w : Nat) : Py.bitLength (w : Int) = ((_root_.C14.bitLength w : Nat) : Int) := by
  unfold Py.bitLength _root_.C14.bitLength
  by_cases h : w = 0 <;> simp [h]

/-- `rho = self.width - w.bit_length()` with `self.width = 64 - self.p` is the model's `(64 - p) - bitLength(x / 2^p)`
    whenever the rank fits (always for 32-bit digests and p ≤ 32) -/
theorem rho_model (x k : Nat) (hk : k ≤ 64) (h : _root_.C14.bitLength (x / 2 ^ k) ≤ 64 - k) :
    rho (width (k : Int)) (rest (x : Int) (k : Int)) = (((64 - k) - _root_.C14.bitLength (x / 2 ^ k) : Nat) : Int) := by
  rw [rest_div]
  simp only [rho, width, bitLength_model]
  omega

/-- bucket and rank of the driver's configuration are the source's expressions -/
theorem digestCfg_bucket (k W x : Nat) : (((_root_.C14.digestCfg k W).bucket x : Nat) : Int) = bucket (x : Int) (m (k : Int)) := by
  rw [bucket_mod]; rfl

theorem digestCfg_rho (k W x : Nat) (hk : k ≤ 64) (h : _root_.C14.bitLength (x / 2 ^ k) ≤ 64 - k) :
    (((_root_.C14.digestCfg k W).rho x : Nat) : Int) = rho (width (k : Int)) (rest (x : Int) (k : Int)) := by
  rw [rho_model x k hk h]; rfl

/-- `self.M[j] = max(self.M[j], rho)` -/
theorem regMax_model (r q : Nat) : regMax (r : Int) (q : Int) = ((max r q : Nat) : Int) := by
  simp only [regMax]; omega

/-- the saturated estimate `2**self.p` -/
theorem saturated_pow (k : Nat) : saturated (k : Int) = ((2 ^ k : Nat) : Int) := by
  simp [saturated, Py.pow]

/-- 32-bit digests at p = 19: the rank always fits, so `rho_model` applies to every real digest -/
example : _root_.C14.bitLength ((2 ^ 32 - 1) / 2 ^ 19) ≤ 64 - 19 := by decide +kernel
example : switch 9 8 = true ∧ switch 8 8 = false := by decide

end Src.C14
