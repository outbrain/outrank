import OutrankModel.Gen.Src.C15
import OutrankModel.Model.C15
import OutrankModel.Lemmas.Bridge
/-! Source tie of C15: bucket location of `cms_hash` and the guard of the bounded counter as the source states them now. -/
namespace Src.C15
open Gen.Src.C15

/-- the location depends on the item only through its hash: update and query of one item address the same cell -/
theorem location_model (h seed width : Nat) : location (h : Int) (seed : Int) (width : Int) = (((h + seed) % width : Nat) : Int) := by
  unfold location Py.mod
  rw [Int.fmod_eq_emod_of_nonneg _ (Int.natCast_nonneg width)]
  norm_cast

/-- `(x_hash + seed) % width` lands inside the row -/
theorem location_in_row (h seed width : Nat) (hw : 0 < width) :
    0 ≤ location (h : Int) (seed : Int) (width : Int) ∧ location (h : Int) (seed : Int) (width : Int) < width := by
  rw [location_model]
  exact ⟨Int.natCast_nonneg _, Int.ofNat_lt.2 (Nat.mod_lt _ hw)⟩

theorem ctr_guard_model (n bound : Nat) : ctrGuard (n : Int) (bound : Int) = decide (n < bound) := by
  unfold ctrGuard; bridge

theorem ctr_batch_guard_model (n bound : Nat) : ctrBatchGuard (n : Int) (bound : Int) = decide (n < bound) := by
  unfold ctrBatchGuard; bridge

/-- the model's `Ctr.add` is the source's guarded increment -/
theorem ctr_add_uses_source {α : Type} [DecidableEq α] (bound : Nat) (c : _root_.C15.Ctr α) (v : α) :
    _root_.C15.Ctr.add bound c v =
      if ctrGuard (c.keys.length : Int) (bound : Int) then
        ⟨if v ∈ c.keys then c.keys else c.keys ++ [v], fun k => if k = v then c.cnt k + 1 else c.cnt k⟩
      else c := by
  simp only [_root_.C15.Ctr.add, ctr_guard_model, decide_eq_true_eq]

example : ctrGuard 2 3 = true ∧ ctrGuard 3 3 = false := by decide
end Src.C15
