import OutrankModel.Gen.Src.C12
import OutrankModel.Model.C12
import OutrankModel.Lemmas.Bridge
import Mathlib.Algebra.Order.Field.Rat
import Mathlib.Algebra.Order.Field.Basic
import Mathlib.Tactic.NormNum.Inv
import Mathlib.Tactic.NormNum.Ineq
/-! Source tie of C12: the keep / drop rule of `construct_new_features` and its two thresholds as the source states them now
vs the integer form `C12.keep` (exact quotients; the float evaluation of the quotients is argued in `Model/C12.lean`). -/
namespace Src.C12
open Gen.Src.C12

theorem maj_support_value : majSupport = 4 / 5 := by unfold majSupport; norm_num
theorem nan_support_value : nanSupport = 3 / 4 := by unfold nanSupport; norm_num

theorem frac_lt (m n : Nat) (hn : 0 < n) (a b : Nat) (hb : 0 < b) :
    ((m : Rat) / n < (a : Rat) / b) ↔ b * m < a * n := by
  have hn' : (0 : Rat) < n := Nat.cast_pos.2 hn
  have hb' : (0 : Rat) < b := Nat.cast_pos.2 hb
  rw [div_lt_div_iff₀ hn' hb', ← Nat.cast_mul, ← Nat.cast_mul, Nat.cast_lt, Nat.mul_comm]

/-- `len(u) > 1 and cfreq < self.max_maj_support and nan_prop < self.nan_prop_support` with the source's own thresholds, on the
    exact quotients `cfreq = maxFreq/n`, `nan_prop = nanCount/n`, is the model's integer-form `C12.keep` -/
theorem keep_model (col : List String) (h : 0 < col.length) :
    keep (col.eraseDups.length : Int) ((_root_.C12.maxFreq col : Rat) / (col.length : Rat)) majSupport
         ((_root_.C12.nanCount col : Rat) / (col.length : Rat)) nanSupport = _root_.C12.keep col := by
  have e2 := frac_lt (_root_.C12.maxFreq col) col.length h 80 100 (by decide)
  have e3 := frac_lt (_root_.C12.nanCount col) col.length h 75 100 (by decide)
  rw [show ((80 : Nat) : Rat) / (100 : Nat) = 4 / 5 by norm_num] at e2
  rw [show ((75 : Nat) : Rat) / (100 : Nat) = 3 / 4 by norm_num] at e3
  simp only [maj_support_value, nan_support_value, keep, _root_.C12.keep, e2, e3]
  -- what is left is the integer test `len(u) > 1` against `1 < length`, in whatever form the source writes it
  bridge

example : keep 2 (1/2) majSupport (1/2) nanSupport = true ∧ keep 2 (4/5) majSupport 0 nanSupport = false ∧
          keep 2 (1/2) majSupport (3/4) nanSupport = false ∧ keep 1 0 majSupport 0 nanSupport = false := by
  decide +kernel
end Src.C12
