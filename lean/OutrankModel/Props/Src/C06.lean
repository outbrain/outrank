import OutrankModel.Gen.Src.C06
import OutrankModel.Model.C06
import OutrankModel.Lemmas.Bridge
/-! Source tie of C06: the branch conditions of `get_combinations_from_columns` / `mixed_rank_graph` as the source states them now. -/
namespace Src.C06
open Gen.Src.C06

theorem isPrefixOfL_eq : ∀ (p s : List Char), _root_.C06.isPrefixOfL p s = p.isPrefixOf s
  | [], s => by simp [_root_.C06.isPrefixOfL]
  | _ :: _, [] => by simp [_root_.C06.isPrefixOfL]
  | a :: as, b :: bs => by simp [_root_.C06.isPrefixOfL, List.isPrefixOf, isPrefixOfL_eq as bs]

/-- Python's `pat in s` as translated (`Py.containsL`) is the model's `hasInfix` -/
theorem containsL_eq (pat : List Char) : ∀ (s : List Char), Py.containsL s pat = _root_.C06.hasInfix pat s
  | [] => by simp [Py.containsL, _root_.C06.hasInfix]
  | c :: cs => by simp [Py.containsL, _root_.C06.hasInfix, isPrefixOfL_eq, containsL_eq pat cs]

/-- `'3mr' in args.heuristic` -/
theorem is3mr_model (h : String) : is3mr h = _root_.C06.hasInfix "3mr".toList h.toList := by
  unfold is3mr Py.contains; exact containsL_eq _ _

/-- `' AND_REL ' in column` is the model's `relName` -/
theorem isRel_model (c : String) : isRel c = _root_.C06.relName c := by
  unfold isRel Py.contains _root_.C06.relName; exact containsL_eq _ _

theorem max3mr_value : max3mr = 10000 := by decide

/-- the 3MR clamp `if cap > MAX_FEATURES_3MR: cap = MAX_FEATURES_3MR` is the model's `effCap` -/
theorem effCap_uses_source (b : Bool) (cap : Nat) :
    _root_.C06.effCap b cap = if b && clamp (cap : Int) max3mr then max3mr.toNat else cap := by
  rw [max3mr_value]
  unfold _root_.C06.effCap clamp
  by_cases h : 10000 < cap
  · have : (cap : Int) > 10000 := by omega
    simp [h, this]
  · have : ¬ (cap : Int) > 10000 := by omega
    simp [h, this]

theorem target_only_model (t : String) : targetOnly t = decide (t = "True") := by unfold targetOnly; bridge
theorem with_diagonal_model (t : String) : withDiagonal t = !targetOnly t := by
  unfold withDiagonal targetOnly; by_cases e : t = "True" <;> simp [e]
theorem diagonal_member_model (c label : String) : diagonalMember c label = decide (c ≠ label) := by unfold diagonalMember; bridge
theorem is_constant_model (h : String) : isConstant h = decide (h = "Constant") := by unfold isConstant; bridge

example : is3mr "MI-numba-3mr" = true ∧ is3mr "MI-numba-randomized" = false ∧ isRel "a AND_REL b" = true ∧ isRel "a AND b" = false := by
  simp only [is3mr, isRel, Py.contains]
  -- the literal's characters without kernel decoding (BUILDING.md, "String literals")
  rw [String.toList_ofList, String.toList_ofList, String.toList_ofList, String.toList_ofList, String.toList_ofList,
    String.toList_ofList]
  decide +kernel
end Src.C06
