import OutrankModel.Gen.Src.C11
import OutrankModel.Model.Construct
import OutrankModel.Props.Src.C06
import OutrankModel.Lemmas.Bridge
/-! Source tie of C11: the flag tests that decide which constructors `compute_batch_ranking` runs, as the source states them now.
`Construct.Cfg` holds these decisions as booleans; the theorems below say which strings give which boolean. -/
namespace Src.C11
open Gen.Src.C11

theorem do_transform_model (t : String) : doTransform t = decide (t ≠ "none") := by unfold doTransform; bridge
theorem do_explode_model (e : String) : doExplode e = decide (e ≠ "False") := by unfold doExplode; bridge
theorem do_sub_model (m : String) : doSub m = decide (m ≠ "False") := by unfold doSub; bridge
/-- without a reference model the interaction step runs iff `interaction_order > 1` – what `Construct.pipeline` passes to `stInter` -/
theorem do_interactions_model (k : Nat) : doInteractions (k : Int) "" = decide (k > 1) := by
  unfold doInteractions; simp; omega
/-- with a reference model JSON it always runs (outside the modelled configurations: `reference_model_JSON = ""` is an assumption of C10/C11) -/
theorem do_interactions_ref (k : Nat) (ref : String) (h : ref ≠ "") : doInteractions (k : Int) ref = true := by
  unfold doInteractions; simp [h]
theorem do_relations_model (h : String) : doRelations h = _root_.C06.hasInfix "3mr".toList h.toList := by
  unfold doRelations Py.contains; exact Src.C06.containsL_eq _ _
/-- the noise controls: flag on and heuristic not `Constant` – the model's `c.noise && !c.constant` -/
theorem do_noise_model (n h : String) : doNoise n h = (decide (n = "True") && !decide (h = "Constant")) := by
  unfold doNoise; by_cases a : n = "True" <;> by_cases b : h = "Constant" <;> simp [a, b]
theorem do_rare_model (task : String) : doRare task = decide (task = "identify_rare_values") := by unfold doRare; bridge

/-- the model's noise stage with the source's own test -/
theorem stNoise_uses_source (e : Construct.Ext) (c : Construct.Cfg) (fr : Construct.Frame) :
    Construct.stNoise e c fr =
      if doNoise (if c.noise then "True" else "False") (if c.constant then "Constant" else "MI-numba-randomized")
      then Construct.noiseControls c.label e.rnd fr else fr := by
  unfold Construct.stNoise
  rw [do_noise_model]
  cases c.noise <;> cases c.constant <;> simp

example : doNoise "True" "Constant" = false ∧ doNoise "True" "MI" = true ∧ doInteractions 1 "" = false ∧ doInteractions 2 "" = true := by decide +kernel
end Src.C11
