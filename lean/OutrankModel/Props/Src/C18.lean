import OutrankModel.Gen.Src.C18
import OutrankModel.Model.C18
import OutrankModel.Lemmas.Bridge
/-! Source tie of C18: the normalisation switch of `create_final_dataframe` as the source states it now. -/
namespace Src.C18
open Gen.Src.C18

theorem containsL_eq (pat s : List Char) : Py.containsL s pat = _root_.C18.hasInfix pat s := by
  induction s with
  | nil => rfl
  | cons c cs ih => rw [Py.containsL, _root_.C18.hasInfix, ih]

/-- `if 'MI' in heuristic` is the model's `isMI` -/
theorem normalise_model (h : String) : normalise h = _root_.C18.isMI h.toList := by
  unfold normalise Py.contains _root_.C18.isMI; exact containsL_eq _ _

example : normalise "MI-numba-randomized" = true ∧ normalise "AMI" = true ∧ normalise "surrogate-SGD" = false := by
  simp only [normalise, Py.contains]
  -- the literal's characters without kernel decoding (BUILDING.md, "String literals")
  rw [String.toList_ofList, String.toList_ofList, String.toList_ofList, String.toList_ofList]
  decide +kernel
end Src.C18
