import OutrankModel.Gen.Src.C17
import OutrankModel.Model.C17
import OutrankModel.Lemmas.Bridge
/-! Source tie of C17: loop condition and the strict improvement test of `rank_features_3MR` as the source states them now. -/
namespace Src.C17
open Gen.Src.C17

theorem more_model (k n : Nat) : more (k : Int) (n : Int) = decide (k < n) := by
  unfold more; bridge

/-- `if importance > top_importance` – STRICT: the first maximal candidate in iteration order wins (`C17.pickGo`) -/
theorem better_model (imp top : Rat) : better imp top = decide (top < imp) := by
  unfold better; bridge

theorem pickGo_uses_source (s : Nat → Rat) (g : Nat) (t : Rat) (f : Nat) (fs : List Nat) :
    _root_.C17.pickGo s (some (g, t)) (f :: fs) =
      if better (s f) t then _root_.C17.pickGo s (some (f, s f)) fs else _root_.C17.pickGo s (some (g, t)) fs := by
  simp only [_root_.C17.pickGo, better_model, decide_eq_true_eq]

example : better 1 1 = false ∧ better 2 1 = true := by decide +kernel
end Src.C17
