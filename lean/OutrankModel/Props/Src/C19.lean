import OutrankModel.Gen.Src.C19
import OutrankModel.Lemmas.C19
import OutrankModel.Lemmas.Bridge
/-! Source tie of C19, as the source states them now: the representation guard of `_generate_feature` (the model's `C19.usesRep` /
`drawCount`), the gap-filling tests of `generate_data`, and the constants and masks of the naive generator. -/
namespace Src.C19
open Gen.Src.C19

/-- `if ensure_rep and len(vec) <= size` (equality included – the repaired test) is the model's `usesRep` -/
theorem enforce_rep_model (P : _root_.C19.Params) (dom : List Int) :
    enforceRep P.ensureRep (dom.length : Int) (P.nSamples : Int) = _root_.C19.usesRep P dom := by
  unfold enforceRep _root_.C19.usesRep; bridge

/-- `size=(size - len(vec))` values are drawn when representation is enforced -/
theorem drawn_model (P : _root_.C19.Params) (dom : List Int) (h : _root_.C19.usesRep P dom = true) :
    drawn (P.nSamples : Int) (dom.length : Int) = ((_root_.C19.drawCount P dom : Nat) : Int) := by
  have := (_root_.C19.usesRep_iff.mp h).2
  unfold drawn _root_.C19.drawCount; rw [if_pos h]; bridge

example : enforceRep true 10 10 = true ∧ enforceRep true 11 10 = false ∧ enforceRep false 3 10 = false := by decide

/-- gap filling runs exactly while the running column index is below the declared index (`C19.place`: `gap = f - ix`) -/
theorem gap_single_model (ix j : Nat) : gapBeforeSingle (ix : Int) (j : Int) = decide (0 < j - ix) := by
  unfold gapBeforeSingle; simp only [Nat.sub_pos_iff_lt]; bridge
theorem gap_listed_model (ix j : Nat) : gapBeforeListed (ix : Int) (j : Int) = decide (0 < j - ix) := by
  unfold gapBeforeListed; simp only [Nat.sub_pos_iff_lt]; bridge
/-- the tail is filled with default features iff columns remain (`List.replicate (nF - ix) dflt`) -/
theorem tail_needed_model (ix nF : Nat) : tailNeeded (ix : Int) (nF : Int) = decide (0 < nF - ix) := by
  unfold tailNeeded; simp only [Nat.sub_pos_iff_lt]; bridge

/-- the naive generator: needle column 30, values drawn from [10, 100), label threshold 40 -/
theorem needle_column_value : needleColumn = 30 := by decide
theorem draw_range : drawLow = 10 ∧ drawHigh = 100 := by decide
/-- `target[target < 40] = 0` then `target[target > 39] = 1` is the model's `maskGt39 ∘ maskLt40` and equals `label` -/
theorem masks_model (col : List Int) :
    _root_.C19.maskGt39 (_root_.C19.maskLt40 col)
      = (col.map fun v => if lowLabel v then 0 else v).map fun v => if highLabel v then 1 else v := by
  simp only [_root_.C19.maskGt39, _root_.C19.maskLt40, lowLabel, highLabel, decide_eq_true_eq]

theorem label_of_masks (v : Int) (h : 10 ≤ v) :
    (let a := if lowLabel v then 0 else v; if highLabel a then (1 : Int) else a) = _root_.C19.label v := by
  unfold lowLabel highLabel _root_.C19.label; bridge

example : lowLabel 39 = true ∧ lowLabel 40 = false ∧ highLabel 40 = true ∧ highLabel 39 = false := by decide
end Src.C19
