import OutrankModel.Gen.Src.C20
import OutrankModel.Model.C20
import OutrankModel.Lemmas.Bridge
/-! Source tie of C20: recorded column ranges of `generate_duplicates` / `generate_correlated` and the noise counts of
`generate_noise` as the source states them now. -/
namespace Src.C20
open Gen.Src.C20

/-- `duplicate_indices = arange(len(X[0]), len(X[0]) + len(feature_indices))`: exactly the `k` added columns
    (the model's `List.range' w k`; the pre-fix code stopped one short) -/
theorem dup_range_model (w k : Nat) :
    dupStart (w : Int) = (w : Int) ∧ dupEnd (w : Int) (k : Int) = ((w + k : Nat) : Int) := by
  unfold dupStart dupEnd; constructor <;> omega

theorem dup_range_length (w k : Nat) : (dupEnd (w : Int) (k : Int) - dupStart (w : Int)).toNat = (List.range' w k).length := by
  unfold dupStart dupEnd; rw [List.length_range']; omega

theorem corr_range_model (w k : Nat) : corrEnd (w : Int) (k : Int) = ((w + k : Nat) : Int) := by
  unfold corrEnd; omega

/-- `n_flip = int(n * p)`: for 0 ≤ p the truncation is the floor of the exact product – at most `p·n` cells, as the property says -/
theorem n_flip_floor (n : Nat) (p : Rat) (hp : 0 ≤ p) : nFlip (n : Int) p = (((n : Int) : Rat) * p).floor := by
  unfold nFlip Py.truncRat
  exact if_pos (Rat.mul_nonneg (Rat.intCast_nonneg.mpr (Int.natCast_nonneg n)) hp)

theorem n_missing_floor (n : Nat) (p : Rat) (hp : 0 ≤ p) : nMissing (n : Int) p = (((n : Int) : Rat) * p).floor :=
  n_flip_floor n p hp

example : nFlip 12 ((3 : Rat) / 10) = 3 ∧ nMissing 10 ((1 : Rat) / 2) = 5 ∧ nFlip 7 0 = 0 := by decide +kernel
end Src.C20
