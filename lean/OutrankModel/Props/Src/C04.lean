import OutrankModel.Gen.Src.C04
import OutrankModel.Model.MI
import OutrankModel.Lemmas.Bridge
/-! Source tie of C04: quota and guards of `stratified_subsampling` as the source states them now vs `MI.quota` / `MI.sampledRows`. -/
namespace Src.C04
open Gen.Src.C04

/-- `unique_samples_per_val = int(final_space_size / len(_f_values_X))` is the natural-number quotient -/
theorem quota_div (fs k : Nat) : quota (fs : Int) (k : Int) = ((fs / k : Nat) : Int) := by
  unfold quota Py.truncdiv
  simp

/-- with `final_space_size = ⌊r·n⌋` (r = rnum/rden exactly) the source's quota is the model's `MI.quota` -/
theorem quota_model (n k rnum rden : Nat) : quota ((rnum * n / rden : Nat) : Int) (k : Int) = ((MI.quota n k rnum rden : Nat) : Int) := by
  rw [quota_div]; rfl

/-- `if unique_samples_per_val == 0: return Y, X` – the model's `if q = 0 then List.range X.length` -/
theorem keep_all_model (q : Nat) : keepAll (q : Int) = decide (q = 0) := by
  unfold keepAll; bridge

/-- the running write offset advances by exactly the number of rows written -/
theorem next_offset_model (off len : Nat) : nextOffset (off : Int) (len : Int) = ((off + len : Nat) : Int) := by
  unfold nextOffset; omega

/-- sampling happens iff the ratio is below one -/
theorem subsample_model (r : Rat) : subsample r = decide (r < 1) := by
  unfold subsample; bridge

example : quota 20 3 = 6 ∧ keepAll 0 = true := by decide
end Src.C04
