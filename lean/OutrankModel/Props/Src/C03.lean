import OutrankModel.Gen.Src.C03
import OutrankModel.Model.MI
import OutrankModel.Lemmas.Bridge
import OutrankModel.Model.C05
/-! Source tie of C03: the displaced index and the name → correction flag mapping as the source states them now. -/
namespace Src.C03
open Gen.Src.C03

theorem singleton_skip (c : Nat) : singletonSkip (c : Int) = decide (c = 1) := by
  unfold singletonSkip; bridge

/-- `index = (el + _f_value_counts) % len(Y)`: the model's `Y[(i + shift) % Y.length]` (`MI.spoofed`) -/
theorem displaced_model (i c n : Nat) : displaced (i : Int) (c : Int) (n : Int) = (((i + c) % n : Nat) : Int) := by
  unfold displaced Py.mod
  rw [Int.fmod_eq_emod_of_nonneg _ (Int.natCast_nonneg n)]
  norm_cast

/-- the displaced index is a valid row position -/
theorem displaced_in_range (i c n : Nat) (h : 0 < n) : 0 ≤ displaced (i : Int) (c : Int) (n : Int) ∧ displaced (i : Int) (c : Int) (n : Int) < n := by
  rw [displaced_model]
  exact ⟨Int.natCast_nonneg _, Int.ofNat_lt.2 (Nat.mod_lt _ h)⟩

/-- `cardinality_correction = heuristic == 'MI-numba-randomized'`: the flag of the C05 model -/
theorem correction_flag_model (h : String) : correctionFlag h = C05.correctionFlag "MI-numba-randomized" h := by
  unfold correctionFlag C05.correctionFlag; bridge

/-- `if feature_one == args.label_column: swap` – the label always ends up as the conditioning (second) vector -/
theorem label_first_model (a label : String) : labelFirst a label = decide (a = label) := by unfold labelFirst; bridge

theorem orient_uses_source (p : String × String) (label : String) :
    C05.orient p label = if labelFirst p.1 label then (p.2, label) else p := by
  simp only [C05.orient, label_first_model, decide_eq_true_eq]

example : correctionFlag "MI-numba-randomized" = true ∧ correctionFlag "MI-numba-3mr" = false := by
  simp only [correctionFlag, decide_eq_true_eq, decide_eq_false_iff_not, ← String.toList_inj]
  -- the literal's characters without kernel decoding (BUILDING.md, "String literals")
  rw [String.toList_ofList, String.toList_ofList]; decide +kernel
end Src.C03
