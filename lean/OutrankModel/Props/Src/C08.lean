import OutrankModel.Gen.Src.C08
import OutrankModel.Model.Stream
import OutrankModel.Model.Pipeline
import OutrankModel.Lemmas.Bridge
import OutrankModel.Lemmas.PyStr
/-! Source tie of C08: the decisions of the streaming loop of `estimate_importances_minibatches` as the source states them
now; `step_uses_source` / `finish_uses_source` restate the whole model step with them. -/
namespace Src.C08
open Gen.Src.C08

theorem skip_line_model (lc sub : Nat) : skipLine (lc : Int) (sub : Int) = (lc % sub != 0) := by
  unfold skipLine Py.mod
  rw [Int.fmod_eq_emod_of_nonneg _ (Int.natCast_nonneg sub)]
  bridge

theorem valid_line_model (w hw : Nat) : validLine (w : Int) (hw : Int) = decide (w = hw) := by
  unfold validLine; bridge

theorem batch_full_model (n B : Nat) : batchFull (n : Int) (B : Int) = decide (B ≤ n) := by
  unfold batchFull; bridge

theorem tail_used_model (n : Nat) : tailUsed (n : Int) = decide (1024 < n) := by
  unfold tailUsed Py.pow
  bridge

theorem checkpoint_in_loop_model (h : String) : checkpointInLoop h = decide (h ≠ "Constant") := by
  unfold checkpointInLoop; bridge

/-- the model's loop body IS the source's loop body with the source's own decisions -/
theorem step_uses_source {α : Type} (c : Stream.Cfg) (s : Stream.St α) (ln : Bool × α) :
    Stream.step c s ln =
      (let lc := s.lc + 1
       if skipLine (lc : Int) (c.sub : Int) then { s with lc := lc }
       else
         let buf := if ln.1 then s.buf ++ [ln.2] else s.buf
         let inv := if ln.1 then s.invalid else s.invalid + 1
         if batchFull (buf.length : Int) (c.batch : Int) then ⟨lc, [], s.done ++ [buf], inv⟩ else ⟨lc, buf, s.done, inv⟩) := by
  simp only [Stream.step, skip_line_model, batch_full_model, decide_eq_true_eq]

theorem finish_uses_source {α : Type} (c : Stream.Cfg) (s : Stream.St α) :
    Stream.finish c s =
      (if tailUsed (s.buf.length : Int) then ⟨s.done ++ [s.buf.take c.batch], true, s.invalid, s.lc⟩
       else ⟨s.done, false, s.invalid, s.lc⟩) := by
  simp only [Stream.finish, tail_used_model, decide_eq_true_eq]

/-- `parse_csv_raw`: `header.strip().split(col_delimiter)` for a one-character delimiter (`none` = ValueError for `''`) -/
theorem header_fields_model (header sep : String) (d : Char) (hd : sep.toList = [d]) :
    headerFields header sep = some ((C16.splitOn d (C16.pyStrip header.toList)).map String.ofList) := by
  unfold headerFields
  simp [PyStr.split?_of_single _ sep d hd, PyStr.strip_model]

/-- with the source's `col_delimiter = ','`: the column names the streaming loop compares every line's width with are the
header reader of the pipeline model (`Pipeline.headerCols`) -/
theorem header_cols_uses_source (header : String) : headerFields header "," = some (Pipeline.headerCols header.toList) := by
  rw [header_fields_model header "," ',' (by simp)]; rfl

example : headerFields " a,b c,,d\n" "," = some ["a", "b c", "", "d"] := by
  -- the literal's characters without kernel decoding (BUILDING.md, "String literals")
  rw [header_cols_uses_source, String.toList_ofList]; decide +kernel
example : skipLine 3 3 = false ∧ skipLine 4 3 = true ∧ tailUsed 1024 = false ∧ tailUsed 1025 = true := by decide +kernel
end Src.C08
