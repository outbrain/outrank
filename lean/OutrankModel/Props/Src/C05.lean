import OutrankModel.Gen.Src.C05
import OutrankModel.Model.C05
import OutrankModel.Lemmas.Bridge
/-! Source tie of C05: pair hash of `max_pair_coverage`, label orientation and correction flag as the source states them now. -/
namespace Src.C05
open Gen.Src.C05

theorem max_size_value : maxSize = 1000000 := by decide

/-- `(el1 * 1471343 - el2) % max_size` is the model's `C05.pairHash` (Python's `%` with a positive modulus is `Int.emod`) -/
theorem pair_hash_model (a b : Int) : pairHash a b maxSize = _root_.C05.pairHash (a, b) := by
  rw [max_size_value]
  unfold pairHash Py.mod _root_.C05.pairHash
  rw [Int.fmod_eq_emod_of_nonneg _ (by decide)]

/-- `if feature_one == args.label_column` – the test of `C05.orient` -/
theorem label_first_model (a label : String) : labelFirst a label = decide (a = label) := by
  unfold labelFirst; bridge

theorem orient_uses_source (p : String × String) (label : String) :
    _root_.C05.orient p label = if labelFirst p.1 label then (p.2, label) else p := by
  simp only [_root_.C05.orient, label_first_model, decide_eq_true_eq]

theorem correction_flag_model (h : String) : correctionFlag h = _root_.C05.correctionFlag "MI-numba-randomized" h := by
  unfold correctionFlag _root_.C05.correctionFlag; bridge

example : pairHash 157 851 maxSize = pairHash 0 0 maxSize := by decide
end Src.C05
