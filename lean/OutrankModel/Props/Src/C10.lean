import OutrankModel.Gen.Src.C10
import OutrankModel.Model.Construct
import OutrankModel.Lemmas.Bridge
/-! Source tie of C10: the joint encoding and the branch conditions of `compute_combined_features` as the source states them now. -/
namespace Src.C10
open Gen.Src.C10

/-- `f'{len(value)}:{value}'` is the model's length-prefixed constituent `Construct.encOne` -/
theorem length_prefixed_model (v : String) : (lengthPrefixed v).toList = Construct.encOne v.toList := by
  unfold lengthPrefixed Py.strOfInt Construct.encOne
  have hr : ∀ n : Nat, (Int.repr (n : Int)) = Nat.repr n := fun _ => rfl
  simp [String.toList_append, String.length, toString, hr, Nat.toList_repr]

/-- hence the source's field-wise concatenation over a tuple is `Construct.encChars`, the characters of the model's `encodeTuple` -/
theorem encode_tuple_model (vs : List String) :
    (vs.map fun v => (lengthPrefixed v).toList).flatten = Construct.encChars (vs.map String.toList) := by
  unfold Construct.encChars
  induction vs with
  | nil => rfl
  | cons v vs ih =>
    simp only [length_prefixed_model] at ih
    simp only [List.map_cons, List.flatten_cons, List.flatMap_cons, length_prefixed_model, ih]

theorem feature_column_model (c label : String) : featureColumn c label = decide (c ≠ label) := by unfold featureColumn; bridge
theorem join_string_model (rel : Bool) : joinString rel = if rel then " AND_REL " else " AND " := by unfold joinString; bridge
/-- relation (3MR) features are always pairs; interaction features have the configured order -/
theorem order_model (rel : Bool) (k : Nat) : order rel (k : Int) = ((if rel then 2 else k : Nat) : Int) := by
  unfold order; cases rel <;> simp
/-- the candidate space is enumerated iff `interaction_order > 1` (the condition the model's `pipeline` passes to `stInter`) -/
theorem enumerate_model (k : Nat) : enumerate (k : Int) = decide (k > 1) := by unfold enumerate; bridge

example : lengthPrefixed "abc" = "3:abc" ∧ lengthPrefixed "" = "0:" ∧ lengthPrefixed "0123456789" = "10:0123456789" := by
  simp only [← String.toList_inj, length_prefixed_model]
  -- the literal's characters without kernel decoding (BUILDING.md, "String literals")
  rw [String.toList_ofList, String.toList_ofList, String.toList_ofList, String.toList_ofList, String.toList_ofList,
    String.toList_ofList]
  decide +kernel
end Src.C10
