import OutrankModel.Lemmas.PipelineSummary
import OutrankModel.Props.Pipeline
import OutrankModel.Props.C18
/-!
# The summary stage of the end-to-end pipeline model (DESIGN §11.2)

`Pipeline.summaryOfFile` (Model/Pipeline.lean) = C18's `summary` applied to the rows of the table `Pipeline.rankFile`
writes (`pairwise_ranks.tsv` → `feature_singles.tsv`), the table's scores mapped into C18's exact rationals by an
embedding `toRat : σ → Rat` (the driver: `Pipeline.floatToRat`, the exact value of the double).  The theorems are
COMPOSITIONS of Props/Pipeline (which pairs the table has, both orientations with one score, the score is the median over
the batches) with Props/C18 (`each_feature_once`, `score_is_median`, `sorted_desc`, `normalised`,
`normalise_undefined_iff`); they hold for ALL headers, line lists, batch sizes ≥ 1, subsampling factors ≥ 1, sampling
ratios, arithmetics and embeddings `toRat`, for every heuristic but `Constant`.

Preconditions (explicit, decidable): the label is a column of the header; `NamesOK` – C18's `WF` for plain (not
cardinality-annotated) names: the label contains no `-` and no OTHER column has the label as its part before the first
`-`; for a `3mr` heuristic the label's name does not contain ` AND_REL `.  Distinct column names are NOT needed here.

NOTE on "median": every ordered pair occurs once in `pairwise_ranks.tsv` and the two orientations of a pair carry the
same score, so the group the summary stage takes a median of is `[s, s]` (`[s]` for the label itself): the median the
summary stage computes is that single value, and `s` itself is the median over the BATCHES (`feature_singles_score`,
`feature_singles_score_batches`).  The label is listed too – the pair (label, label) is scored.
-/
namespace Pipeline
open Stream
variable {α σ : Type}

/-- C18's name precondition `WF` for the plain names of this configuration -/
def NamesOK (label : String) (cols : List String) : Prop :=
  '-' ∉ label.toList ∧ ∀ col ∈ cols, col ≠ label → C18.beforeDash col.toList ≠ label.toList

instance (label : String) (cols : List String) : Decidable (NamesOK label cols) := by
  unfold NamesOK; infer_instance

/-! ## 1. the table the summary stage reads -/

/-- both names of every row of `pairwise_ranks.tsv` are columns of the header (C06 `combos_names`) -/
theorem table_names_in_header (ar : Arith α σ) (rules : List (C05.Cond × C05.Callee)) (cn : String) (c : Cfg)
    (hc : c.constant = false) (hb : 1 ≤ c.batch) (hs : 1 ≤ c.sub) (header : C16.Str) (lines : List C16.Str)
    (hl : c.label ∈ headerCols header) (a b : String) (s : σ)
    (h : ((a, b), s) ∈ (rankFile ar rules cn c header lines).table) :
    a ∈ headerCols header ∧ b ∈ headerCols header := by
  obtain ⟨_, hp | hp⟩ := (table_pairs ar rules cn c hc hb hs header lines a b).mp ⟨s, h⟩
  · exact C06.combos_names hl c.targetOnly c.is3mr hp
  · exact (C06.combos_names hl c.targetOnly c.is3mr hp).symm

/-- an ordered pair has ONE score in the table (`pair_score_is_median`: it is the median of the pair's batch scores) -/
theorem table_score_unique (ar : Arith α σ) (rules : List (C05.Cond × C05.Callee)) (cn : String) (c : Cfg)
    (hb : 1 ≤ c.batch) (hs : 1 ≤ c.sub) (header : C16.Str) (lines : List C16.Str) (a b : String) (s s' : σ)
    (h : ((a, b), s) ∈ (rankFile ar rules cn c header lines).table)
    (h' : ((a, b), s') ∈ (rankFile ar rules cn c header lines).table) : s = s' := by
  rw [((pair_score_is_median ar rules cn c hb hs header lines a b s).mp h).2,
    ((pair_score_is_median ar rules cn c hb hs header lines a b s').mp h').2]

/-- every column of the header – the label itself included – has a row against the label as soon as one batch is
ranked, and nothing else has (`table_pairs`; C06 `combos_cover_label`) -/
theorem label_rows_of_table (ar : Arith α σ) (rules : List (C05.Cond × C05.Callee)) (cn : String) (c : Cfg)
    (hc : c.constant = false) (hb : 1 ≤ c.batch) (hs : 1 ≤ c.sub) (header : C16.Str) (lines : List C16.Str)
    (hl : c.label ∈ headerCols header) (hrel : c.is3mr = true → C06.relName c.label = false) (f : String) :
    (∃ s, ((f, c.label), s) ∈ (rankFile ar rules cn c header lines).table) ↔
      specBatches c header lines ≠ [] ∧ f ∈ headerCols header := by
  rw [table_pairs ar rules cn c hc hb hs header lines f c.label]
  refine and_congr_right fun _ => ⟨?_, C06.combos_cover_label hl c.targetOnly c.is3mr hrel⟩
  rintro (h | h)
  · exact (C06.combos_names hl c.targetOnly c.is3mr h).1
  · exact (C06.combos_names hl c.targetOnly c.is3mr h).2

/-- C18's precondition holds of the rows the summary stage reads (C18 `wf_of_syntactic`) -/
theorem summary_rows_wf (ar : Arith α σ) (toRat : σ → Rat) (rules : List (C05.Cond × C05.Callee)) (cn : String)
    (c : Cfg) (hc : c.constant = false) (hb : 1 ≤ c.batch) (hs : 1 ≤ c.sub) (header : C16.Str) (lines : List C16.Str)
    (hl : c.label ∈ headerCols header) (hok : NamesOK c.label (headerCols header)) :
    C18.WF c.label.toList c.label.toList (tableRows toRat (rankFile ar rules cn c header lines).table) := by
  apply C18.wf_of_syntactic hok.1 (Or.inl rfl)
  intro r hr
  obtain ⟨a, b, s, hm, rfl⟩ := (mem_tableRows toRat _ r).mp hr
  have hn := table_names_in_header ar rules cn c hc hb hs header lines hl a b s hm
  have key : ∀ x ∈ headerCols header, x.toList ≠ c.label.toList → C18.beforeDash x.toList ≠ c.label.toList :=
    fun x hx hne => hok.2 x hx fun e => hne (e ▸ rfl)
  exact ⟨key a hn.1, key b hn.2⟩

/-- a row of the summary's input pairs the name `n` with the label iff `n` is (the text of) a column `f` with a table
row `(f, label)` – the mirrored row `(label, f)` carries the same score (`both_orientations`) -/
theorem pairs_row_iff (ar : Arith α σ) (toRat : σ → Rat) (rules : List (C05.Cond × C05.Callee)) (cn : String)
    (c : Cfg) (hc : c.constant = false) (hb : 1 ≤ c.batch) (hs : 1 ≤ c.sub) (header : C16.Str) (lines : List C16.Str)
    (n : C18.Name) :
    (∃ r ∈ tableRows toRat (rankFile ar rules cn c header lines).table, C18.Pairs c.label.toList n r) ↔
      ∃ f s, n = f.toList ∧ ((f, c.label), s) ∈ (rankFile ar rules cn c header lines).table := by
  constructor
  · rintro ⟨r, hr, hp⟩
    obtain ⟨f, s, e, hm, _⟩ := pairs_of_mem_tableRows toRat
      (fun a b s => (both_orientations ar rules cn c hc hb hs header lines a b s).mp) hr hp
    exact ⟨f, s, e, hm⟩
  · rintro ⟨f, s, rfl, hm⟩
    exact ⟨_, (mem_tableRows toRat _ _).mpr ⟨f, c.label, s, hm, rfl⟩, .inr ⟨rfl, rfl⟩⟩

/-! ## 2. `feature_singles.tsv`: which features, with which score -/

/-- C18 `score_is_median` on this table: the un-normalised summary table holds `(n, m)` iff `n` is the text of
a column `f` whose row `(f, label)` of `pairwise_ranks.tsv` has the score `s` with `m = toRat s` – the median the summary
stage takes is over the group `{(f, label), (label, f)}`, whose members carry that one score. -/
theorem feature_singles_score (ar : Arith α σ) (toRat : σ → Rat) (rules : List (C05.Cond × C05.Callee)) (cn : String)
    (c : Cfg) (hc : c.constant = false) (hb : 1 ≤ c.batch) (hs : 1 ≤ c.sub) (header : C16.Str) (lines : List C16.Str)
    (hl : c.label ∈ headerCols header) (hok : NamesOK c.label (headerCols header)) (n : C18.Name) (m : Rat) :
    (n, m) ∈ C18.medians c.label.toList (tableRows toRat (rankFile ar rules cn c header lines).table) ↔
      ∃ f s, n = f.toList ∧ ((f, c.label), s) ∈ (rankFile ar rules cn c header lines).table ∧ m = toRat s := by
  have hmed := @labelScores_median _ toRat _ c.label
    (fun k s s' => table_score_unique ar rules cn c hb hs header lines k.1 k.2 s s')
    (fun a b s => (both_orientations ar rules cn c hc hb hs header lines a b s).mp)
  rw [C18.score_is_median (summary_rows_wf ar toRat rules cn c hc hb hs header lines hl hok) n m,
    pairs_row_iff ar toRat rules cn c hc hb hs header lines n]
  constructor
  · rintro ⟨⟨f, s, rfl, hm⟩, hmd⟩
    exact ⟨f, s, rfl, hm, (Option.some.inj ((hmed hm).symm.trans hmd)).symm⟩
  · rintro ⟨f, s, rfl, hm, rfl⟩
    exact ⟨⟨f, s, rfl, hm⟩, hmed hm⟩

/-- … and that score is the MEDIAN OVER THE BATCHES of the chunk specification of the
scores the batches give to `(f, label)` (`pair_score_is_median`): `(n, m)` is in the un-normalised summary table iff a
batch was ranked, `n` is the text of a column `f` of the header and `m = toRat (median of f's per-batch scores)`. -/
theorem feature_singles_score_batches (ar : Arith α σ) (toRat : σ → Rat) (rules : List (C05.Cond × C05.Callee))
    (cn : String) (c : Cfg) (hc : c.constant = false) (hb : 1 ≤ c.batch) (hs : 1 ≤ c.sub) (header : C16.Str)
    (lines : List C16.Str) (hl : c.label ∈ headerCols header) (hok : NamesOK c.label (headerCols header))
    (hrel : c.is3mr = true → C06.relName c.label = false) (n : C18.Name) (m : Rat) :
    (n, m) ∈ C18.medians c.label.toList (tableRows toRat (rankFile ar rules cn c header lines).table) ↔
      specBatches c header lines ≠ [] ∧ ∃ f ∈ headerCols header, n = f.toList ∧
        m = toRat (median ar.ord
              ((specBatches c header lines).map fun rows =>
                scoresOf (batchRows ar rules cn c (headerCols header) rows) (f, c.label)).flatten) := by
  rw [feature_singles_score ar toRat rules cn c hc hb hs header lines hl hok n m]
  constructor
  · rintro ⟨f, s, rfl, hm, rfl⟩
    obtain ⟨hne, hf⟩ := (label_rows_of_table ar rules cn c hc hb hs header lines hl hrel f).mp ⟨s, hm⟩
    exact ⟨hne, f, hf, rfl,
      congrArg toRat ((pair_score_is_median ar rules cn c hb hs header lines f c.label s).mp hm).2⟩
  · rintro ⟨hne, f, hf, rfl, rfl⟩
    obtain ⟨s, hm⟩ := (label_rows_of_table ar rules cn c hc hb hs header lines hl hrel f).mpr ⟨hne, hf⟩
    exact ⟨f, s, rfl, hm,
      congrArg toRat ((pair_score_is_median ar rules cn c hb hs header lines f c.label s).mp hm).2.symm⟩

/-- C18 `each_feature_once` on this table: whatever `feature_singles.tsv` holds (normalised or not),
no name occurs twice, and – as soon as one batch is ranked – its names are exactly the columns of the header: every
feature, and the label itself (the pair (label, label) is scored and its row is picked up by the summary loop). -/
theorem feature_singles_each_once (ar : Arith α σ) (toRat : σ → Rat) (rules : List (C05.Cond × C05.Callee))
    (cn : String) (c : Cfg) (hc : c.constant = false) (hb : 1 ≤ c.batch) (hs : 1 ≤ c.sub) (header : C16.Str)
    (lines : List C16.Str) (hl : c.label ∈ headerCols header) (hok : NamesOK c.label (headerCols header))
    (hrel : c.is3mr = true → C06.relName c.label = false) (T : C18.Table)
    (h : summaryOfFile ar toRat rules cn c header lines = some T) :
    (T.map (·.1)).Nodup ∧
    ∀ n, n ∈ T.map (·.1) ↔ specBatches c header lines ≠ [] ∧ ∃ f ∈ headerCols header, n = f.toList := by
  obtain ⟨h1, h2⟩ := C18.each_feature_once (summary_rows_wf ar toRat rules cn c hc hb hs header lines hl hok) h
  refine ⟨h1, fun n => (h2 n).trans ?_⟩
  rw [← exists_and_left]
  refine (pairs_row_iff ar toRat rules cn c hc hb hs header lines n).trans (exists_congr fun f => ?_)
  rw [exists_and_left, label_rows_of_table ar rules cn c hc hb hs header lines hl hrel f]
  exact and_rotate

/-! ## 3. order and normalisation -/

/-- a heuristic name without `MI`: `feature_singles.tsv` IS the table of `feature_singles_score` (C18 `summary_plain`) -/
theorem feature_singles_plain (ar : Arith α σ) (toRat : σ → Rat) (rules : List (C05.Cond × C05.Callee)) (cn : String)
    (c : Cfg) (header : C16.Str) (lines : List C16.Str) (hmi : C18.isMI c.heuristic.toList = false) :
    summaryOfFile ar toRat rules cn c header lines
      = some (C18.medians c.label.toList (tableRows toRat (rankFile ar rules cn c header lines).table)) :=
  C18.summary_plain _ hmi

/-- descending score order, with and without normalisation (C18 `sorted_desc`) -/
theorem feature_singles_sorted (ar : Arith α σ) (toRat : σ → Rat) (rules : List (C05.Cond × C05.Callee)) (cn : String)
    (c : Cfg) (header : C16.Str) (lines : List C16.Str) (T : C18.Table)
    (h : summaryOfFile ar toRat rules cn c header lines = some T) : C18.Desc T :=
  C18.sorted_desc h

/-- `"MI"` occurs in the heuristic name (C18 `normalised`, `scale_props`, `normalised_range`): `feature_singles.tsv` is
the table of `feature_singles_score` mapped through `s ↦ (s − min) / (max − min)` – same names, same order –, `min` /
`max` the smallest / largest of its scores, `min < max`; the map sends min ↦ 0, max ↦ 1, is strictly monotone, and all
scores of the file lie in [0, 1]. -/
theorem feature_singles_normalised (ar : Arith α σ) (toRat : σ → Rat) (rules : List (C05.Cond × C05.Callee))
    (cn : String) (c : Cfg) (header : C16.Str) (lines : List C16.Str) (hmi : C18.isMI c.heuristic.toList = true)
    (T : C18.Table) (h : summaryOfFile ar toRat rules cn c header lines = some T) (hne : T ≠ []) :
    (∃ mn mx, mn < mx ∧
      C18.IsMinMax (C18.medians c.label.toList (tableRows toRat (rankFile ar rules cn c header lines).table)) mn mx ∧
      T = (C18.medians c.label.toList (tableRows toRat (rankFile ar rules cn c header lines).table)).map
            (fun p => (p.1, C18.scale mn mx p.2)) ∧
      C18.scale mn mx mn = 0 ∧ C18.scale mn mx mx = 1 ∧
      ∀ s s', C18.scale mn mx s < C18.scale mn mx s' ↔ s < s') ∧
    ∀ p ∈ T, 0 ≤ p.2 ∧ p.2 ≤ 1 := by
  obtain ⟨mn, mx, hlt, hmm, hT⟩ := C18.normalised hmi h hne
  obtain ⟨p0, p1, pm, _⟩ := C18.scale_props hlt
  exact ⟨⟨mn, mx, hlt, hmm, hT, p0, p1, pm⟩, C18.normalised_range hmi h⟩

/-- the all-NaN column (the code's `0/0`; model: `none`) arises exactly when `"MI"` occurs in the heuristic name, there
is a feature, and all un-normalised scores are equal (C18 `normalise_undefined_iff`) -/
theorem feature_singles_nan_iff (ar : Arith α σ) (toRat : σ → Rat) (rules : List (C05.Cond × C05.Callee)) (cn : String)
    (c : Cfg) (header : C16.Str) (lines : List C16.Str) :
    summaryOfFile ar toRat rules cn c header lines = none ↔
      C18.isMI c.heuristic.toList = true ∧
      C18.medians c.label.toList (tableRows toRat (rankFile ar rules cn c header lines).table) ≠ [] ∧
      ∀ p ∈ C18.medians c.label.toList (tableRows toRat (rankFile ar rules cn c header lines).table),
        ∀ q ∈ C18.medians c.label.toList (tableRows toRat (rankFile ar rules cn c header lines).table), p.2 = q.2 := by
  unfold summaryOfFile summaryOfTable
  cases hmi : C18.isMI c.heuristic.toList
  · rw [C18.summary_plain _ hmi]
    exact ⟨fun h => (nomatch h), fun h => (nomatch h.1)⟩
  · rw [C18.normalise_undefined_iff _ hmi]
    exact ⟨fun h => ⟨rfl, h⟩, fun h => h.2⟩

/-! ## 4. what the scores mean (`MI-numba-3mr`, ratio 1, over ℝ) -/

/-- a requested pair that names `(f, label)` in one of its orientations is SCORED as `(f, label)`: feature first, label
on the conditioning side (C05 `orient`) -/
theorem orient_of_label_pair (f label : String) (p : String × String)
    (h : (f, label) = p ∨ (f, label) = (p.2, p.1)) : C05.orient p label = (f, label) := by
  obtain ⟨p1, p2⟩ := p
  rcases h with h | h <;> cases h
  · by_cases e : f = label <;> simp [C05.orient, e]
  · simp [C05.orient]

/-- DESIGN §11.2, last sentence (`MI-numba-3mr`, ratio 1, ℝ): every entry `(n, m)` of the
un-normalised summary table belongs to a column `f` of the header and `m` is (the embedding of) the MEDIAN, over the
batches of the chunk specification, of the PLUG-IN MUTUAL INFORMATION of the category codes of column `f` and of the label
column in that batch (composition of `feature_singles_score` with `table_score_3mr`); `feature_singles.tsv` is this table
normalised (`feature_singles_normalised`: `"MI"` occurs in `MI-numba-3mr`) and descending (`feature_singles_sorted`). -/
theorem feature_singles_3mr (ord : Ops σ) (emb : C05.Score ℝ → σ) (toRat : σ → Rat) (c : Cfg)
    (h3 : c.heuristic = "MI-numba-3mr") (hr1 : c.rnum = 1) (hr2 : c.rden = 1) (hb : 1 ≤ c.batch) (hs : 1 ≤ c.sub)
    (header : C16.Str) (lines : List C16.Str) (hl : c.label ∈ headerCols header)
    (hok : NamesOK c.label (headerCols header)) (n : C18.Name) (m : Rat)
    (h : (n, m) ∈ C18.medians c.label.toList
      (tableRows toRat (rankFile ⟨MI.realOps, ord, emb⟩ C05.Gen.rules C05.Gen.correctionName c header lines).table)) :
    ∃ f ∈ headerCols header, n = f.toList ∧ ∃ scores : List σ, m = toRat (median ord scores) ∧ scores ≠ [] ∧
      ∀ x ∈ scores, ∃ rows ∈ specBatches c header lines,
        x = emb (.val (MI.miPlugin (C05.catCodes (C05.column (frame (headerCols header) rows) f))
              (C05.catCodes (C05.column (frame (headerCols header) rows) c.label)))) := by
  have hc : c.constant = false := by simp only [Cfg.constant, h3]; decide +kernel
  obtain ⟨f, s, rfl, hm, rfl⟩ :=
    (feature_singles_score ⟨MI.realOps, ord, emb⟩ toRat _ _ c hc hb hs header lines hl hok n m).mp h
  have hf := (table_names_in_header ⟨MI.realOps, ord, emb⟩ _ _ c hc hb hs header lines hl f c.label s hm).1
  obtain ⟨scores, hmed, hne, hall⟩ := table_score_3mr ord emb c h3 hr1 hr2 hb hs header lines hl f c.label s hm
  refine ⟨f, hf, rfl, scores, by rw [hmed], hne, fun x hx => ?_⟩
  obtain ⟨rows, hrows, p, hp, hk, hx'⟩ := hall x hx
  rw [orient_of_label_pair f c.label p hk] at hx'
  exact ⟨rows, hrows, hx'⟩

/-! ## 5. the aggregated table -/

/-- `feature_singles_aggregated.tsv` of the modelled configuration (no interaction features): if no column name contains
`AND`, the aggregated table is empty (C18 `aggregatedSummary_eq`, `aggregated_each_once`) -/
theorem aggregated_empty (ar : Arith α σ) (toRat : σ → Rat) (rules : List (C05.Cond × C05.Callee)) (cn : String)
    (c : Cfg) (hc : c.constant = false) (hb : 1 ≤ c.batch) (hs : 1 ≤ c.sub) (header : C16.Str) (lines : List C16.Str)
    (hl : c.label ∈ headerCols header) (hok : NamesOK c.label (headerCols header))
    (hrel : c.is3mr = true → C06.relName c.label = false)
    (hplain : ∀ f ∈ headerCols header, C18.isInteraction f.toList = false) (A : C18.Table)
    (h : aggregatedOfFile ar toRat rules cn c header lines = some A) : A = [] := by
  obtain ⟨T, hT, rfl⟩ := (C18.aggregatedSummary_eq _ _ _ A).mp h
  refine List.eq_nil_iff_forall_not_mem.mpr fun q hq => ?_
  -- a row of the aggregated table comes from an interaction name of `T`, and the names of `T` are columns of the header
  obtain ⟨p, hp, hi, _⟩ := ((C18.aggregated_each_once T).2 q.1).mp (List.mem_map_of_mem hq)
  obtain ⟨_, f, hf, e⟩ := ((feature_singles_each_once ar toRat rules cn c hc hb hs header lines hl hok hrel T hT).2 p.1).mp
    (List.mem_map_of_mem hp)
  rw [e, hplain f hf] at hi
  cases hi

/-! ## non-vacuity -/

-- the preconditions are satisfiable together (and `NamesOK` fails for the two excluded shapes)
example : let c : Cfg := ⟨2, 1, "MI-numba-3mr", "label", false, 1, 1⟩
    c.label ∈ headerCols "a,label,b c\n".toList ∧ NamesOK c.label (headerCols "a,label,b c\n".toList) ∧
      (c.is3mr = true → C06.relName c.label = false) ∧ c.constant = false ∧
      C18.isMI c.heuristic.toList = true ∧
      (∀ f ∈ headerCols "a,label,b c\n".toList, C18.isInteraction f.toList = false) := by
  dsimp only [Cfg.is3mr, C06.relName]
  -- the literal's characters without kernel decoding (BUILDING.md, "String literals")
  rw [String.toList_ofList, String.toList_ofList, String.toList_ofList, String.toList_ofList, String.toList_ofList]
  decide +kernel
example : ¬ NamesOK "my-label" ["a", "my-label"] ∧ ¬ NamesOK "label" ["label-x", "label"] := by decide +kernel
example : C18.isMI "max-value-coverage".toList = false ∧ C18.isMI "MI-numba-randomized".toList = true := by
  rw [String.toList_ofList, String.toList_ofList]; decide +kernel
-- a concrete file through both stages (kernel-evaluated; toy arithmetic, exact `max-value-coverage` scores, no `MI` in
-- the name: not normalised): two batches, `a` scores the median 3/4 of its two batch scores, the label 1
example : summaryOfFile Toy.arith id C05.Gen.rules C05.Gen.correctionName
      ⟨2, 1, "max-value-coverage", "label", true, 1, 1⟩
      "a,label\n".toList ["x,1\n".toList, "\"x\",1\n".toList, "y,0,0\n".toList, "y,0\n".toList, "x,0".toList]
    = some [("label".toList, 1), ("a".toList, (3 : Rat) / 4)] := by
  rw [summaryOfFile, Toy.run_example.1]
  dsimp only [summaryOfTable, tableRows, List.map]
  rw [String.toList_ofList, String.toList_ofList, String.toList_ofList]
  decide +kernel
-- … and with a name containing `MI` the same table is normalised (the toy arithmetic scores every pair 0: max = min,
-- the code's NaN column)
example : summaryOfFile Toy.arith id C05.Gen.rules C05.Gen.correctionName
      ⟨2, 1, "MI-numba-randomized", "label", true, 1, 1⟩
      "a,label\n".toList ["x,1\n".toList, "y,0\n".toList] = none := by
  rw [String.toList_ofList, String.toList_ofList, String.toList_ofList]; decide +kernel

end Pipeline
