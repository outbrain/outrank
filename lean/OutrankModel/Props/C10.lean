import OutrankModel.Lemmas.Construct
import OutrankModel.Props.C02
import OutrankModel.Props.C07
/-!
# C10 – interaction features represent joint values faithfully

Model: `Construct.combine` (`Model/Construct.lean`) = `compute_combined_features` after the F6 repair: candidates
`itertools.combinations` of the non-label columns, capped by the C07 sampler, one column per selected combination named
by joining the constituent names, cell = `h64 (encodeTuple row)` with `encodeTuple` the length-prefixed joint encoding.
The hash `h64` (xxh64 hexdigest) is a parameter; "up to 64-bit hash collisions" is the hypothesis `NoCollision`.
-/
namespace Construct

/-- C10-1: the joint encoding that is hashed is injective on value tuples of ARBITRARY strings (any lengths, also tuples
of different arity; values may contain digits, ':' and anything else). -/
theorem encode_injective (u v : List String) (h : encodeTuple u = encodeTuple v) : u = v := by
  have h1 := encChars_inj (String.ofList_injective h)
  exact List.map_injective_iff.mpr (fun _ _ => String.toList_injective) h1

/-- C10-2: the old behaviour (plain concatenation) is not injective, even on tuples of equal arity: defect F6. -/
theorem concat_not_injective :
    ∃ u v : List String, u ≠ v ∧ u.length = v.length ∧ concatTuple u = concatTuple v :=
  ⟨["1", "11"], ["11", "1"], by decide +kernel, rfl, by decide +kernel⟩

/-- C10-3 (kernel form): without hash collisions the interaction column has the same equality kernel as the explicit
column of value tuples. -/
theorem interaction_samekernel (h64 : String → String) (fr : Frame) (combo : List String)
    (hc : NoCollision h64 fr combo) : SameKernel (interCol h64 fr combo) (rowTuples fr combo) := by
  refine (sameKernel_map (rowTuples fr combo) (fun t => h64 (encodeTuple t)) ?_).symm
  intro s hs t ht e
  exact encode_injective s t (hc s hs t ht e)

/-- C10-3: an order-k interaction feature takes equal values on two rows if and only if the rows agree on every
constituent feature – for arbitrary string values, up to hash collisions. -/
theorem interaction_kernel (h64 : String → String) (fr : Frame) (combo : List String)
    (hc : NoCollision h64 fr combo) (i j : Nat) (hi : i < nrows fr) (hj : j < nrows fr) :
    (interCol h64 fr combo)[i]? = (interCol h64 fr combo)[j]? ↔ ∀ c ∈ combo, cell fr c i = cell fr c j := by
  have hl := interCol_length h64 fr combo
  exact ((interaction_samekernel h64 fr combo hc).2 i j (hl ▸ hi) (hl ▸ hj)).trans (rows_eq_iff fr combo i j hi hj)

/-- the oracle the driver applies to the implementation's columns decides exactly clause C10-3 … -/
theorem kernelB_sound (fr : Frame) (combo : List String) (col : List String) :
    kernelB fr combo col = true ↔
      col.length = nrows fr ∧ ∀ i j, i < nrows fr → j < nrows fr →
        (col[i]? = col[j]? ↔ ∀ c ∈ combo, cell fr c i = cell fr c j) := by
  simp only [kernelB, Bool.and_eq_true, decide_eq_true_eq, List.all_eq_true, List.mem_range, beq_iff_eq,
    List.getElem?_toArray, decide_eq_decide]
  constructor
  · rintro ⟨hl, h⟩
    exact ⟨hl, fun i j hi hj => (h i hi j hj).trans (rows_eq_iff fr combo i j hi hj)⟩
  · rintro ⟨hl, h⟩
    exact ⟨hl, fun i hi j hj => (h i j hi hj).trans (rows_eq_iff fr combo i j hi hj).symm⟩

/-- … and accepts the model's column for every frame and every collision-free hash. -/
theorem kernelB_model (h64 : String → String) (fr : Frame) (combo : List String) (hc : NoCollision h64 fr combo) :
    kernelB fr combo (interCol h64 fr combo) = true :=
  (kernelB_sound fr combo _).mpr ⟨interCol_length h64 fr combo, fun i j hi hj => interaction_kernel h64 fr combo hc i j hi hj⟩

/-- C10-4a: category coding. Two columns with the same equality kernel, coded by ANY value→code maps that are injective
on the occurring values (pandas' sorted-rank `cat.codes`, first-occurrence codes, …), have code vectors related by a
relabeling that is injective on the occurring codes – the hypothesis of `MI.relabel_invariant` (C02). -/
theorem kernel_relabel {α β : Type} (a : List α) (b : List β) (codeA : α → Nat) (codeB : β → Nat)
    (hA : ∀ x ∈ a, ∀ y ∈ a, codeA x = codeA y → x = y) (hB : ∀ x ∈ b, ∀ y ∈ b, codeB x = codeB y → x = y)
    (hk : SameKernel a b) :
    ∃ f : Nat → Nat, MI.InjOnList f (a.map codeA) ∧ (a.map codeA).map f = b.map codeB :=
  relabel_of_kernel (((sameKernel_map a codeA hA).symm.trans hk).trans (sameKernel_map b codeB hB))

/-- first-occurrence coding is an admissible category coding -/
theorem focc_injective {α : Type} [DecidableEq α] (l : List α) : ∀ x ∈ l, ∀ y ∈ l, focc l x = focc l y → x = y := by
  intro x hx y _ e
  exact (List.idxOf_inj (mem_uniq.mpr hx)).mp e

/-- pandas' sorted-rank coding (`cat.codes`) is an admissible category coding, for any strict total order on the values -/
theorem rankCode_injective {α : Type} [DecidableEq α] (lt : α → α → Bool)
    (irrefl : ∀ a, lt a a = false) (trans : ∀ a b c, lt a b = true → lt b c = true → lt a c = true)
    (total : ∀ a b, a ≠ b → lt a b = true ∨ lt b a = true) (l : List α) :
    ∀ x ∈ l, ∀ y ∈ l, rankCode lt l x = rankCode lt l y → x = y := by
  intro x hx y hy e
  by_contra hne
  have key : ∀ a ∈ l, ∀ b ∈ l, lt a b = true → rankCode lt l a < rankCode lt l b := by
    intro a ha b _ hab
    exact length_filter_lt_of_imp (fun z _ hz => trans z a b hz hab) (mem_uniq.mpr ha) hab (irrefl a)
  rcases total x y hne with h | h
  · exact Nat.ne_of_lt (key x hx y hy h) e
  · exact Nat.ne_of_gt (key y hy x hx h) e

/-- C10-4b (plain score): the score of the interaction feature against ANY other column `X` equals the score of the
explicit value tuple, whatever admissible category codings are used. -/
theorem interaction_score_plain (h64 : String → String) (fr : Frame) (combo : List String)
    (hc : NoCollision h64 fr combo) (codeI : String → Nat) (codeT : List String → Nat)
    (hI : ∀ x ∈ interCol h64 fr combo, ∀ y ∈ interCol h64 fr combo, codeI x = codeI y → x = y)
    (hT : ∀ x ∈ rowTuples fr combo, ∀ y ∈ rowTuples fr combo, codeT x = codeT y → x = y)
    (X : List Nat) (hX : X.length = nrows fr) (hn : 0 < nrows fr) :
    MI.estimator MI.realOps ((interCol h64 fr combo).map codeI) X 1 1 false
      = MI.estimator MI.realOps ((rowTuples fr combo).map codeT) X 1 1 false := by
  obtain ⟨f, hf, hmap⟩ := kernel_relabel (rowTuples fr combo) (interCol h64 fr combo) codeT codeI hT hI
    (interaction_samekernel h64 fr combo hc).symm
  have hlen : ((rowTuples fr combo).map codeT).length = X.length := by rw [List.length_map, rowTuples_length, hX]
  rw [← hmap, MI.estimator_eq_plugin _ _ (by rw [List.length_map, hlen]) (hX ▸ hn),
    MI.estimator_eq_plugin _ _ hlen (hX ▸ hn)]
  have := MI.miPlugin_map f id ((rowTuples fr combo).map codeT) X hf (fun a _ b _ e => e)
  rw [List.map_id] at this
  rw [this]

/-- C10-4c (with cardinality correction): the same, provided the element-wise self-pair test of the estimator (C02-2)
answers alike for the two code vectors. -/
theorem interaction_score (h64 : String → String) (fr : Frame) (combo : List String)
    (hc : NoCollision h64 fr combo) (codeI : String → Nat) (codeT : List String → Nat)
    (hI : ∀ x ∈ interCol h64 fr combo, ∀ y ∈ interCol h64 fr combo, codeI x = codeI y → x = y)
    (hT : ∀ x ∈ rowTuples fr combo, ∀ y ∈ rowTuples fr combo, codeT x = codeT y → x = y)
    (X : List Nat) (hX : X.length = nrows fr) (hn : 0 < nrows fr)
    (hself : (interCol h64 fr combo).map codeI = X ↔ (rowTuples fr combo).map codeT = X) (cc : Bool) :
    MI.estimator MI.realOps ((interCol h64 fr combo).map codeI) X 1 1 cc
      = MI.estimator MI.realOps ((rowTuples fr combo).map codeT) X 1 1 cc := by
  obtain ⟨f, hf, hmap⟩ := kernel_relabel (rowTuples fr combo) (interCol h64 fr combo) codeT codeI hT hI
    (interaction_samekernel h64 fr combo hc).symm
  have hlen : ((rowTuples fr combo).map codeT).length = X.length := by rw [List.length_map, rowTuples_length, hX]
  have := MI.relabel_invariant ((rowTuples fr combo).map codeT) X f id hlen (hX ▸ hn) hf (fun a _ b _ e => e)
    (by rw [hmap, List.map_id]; exact hself) cc
  rw [hmap, List.map_id] at this
  exact this

/-- C10-5a: the original columns are left untouched: the input frame is a prefix of the output (names, order, values). -/
theorem originals_untouched (h64 : String → String) (label : String) (order cap : Nat) (is3mr : Bool)
    (cnt : List String → Nat) (fr : Frame) : fr <+: (combine h64 label order cap is3mr cnt fr).2.2 :=
  ⟨_, rfl⟩

/-- C10-5b: every appended column is the interaction column of a combination chosen by the fair sampler among the
`itertools.combinations` of the non-label columns, has order-many constituents taken in frame order, and is named by
joining the constituent names with " AND " (" AND_REL " for the 3mr variant). -/
theorem appended_columns (h64 : String → String) (label : String) (order cap : Nat) (is3mr : Bool)
    (cnt : List String → Nat) (fr : Frame) (col : Column)
    (h : col ∈ interBlock h64 fr is3mr (combine h64 label order cap is3mr cnt fr).2.1) :
    ∃ combo, combo ∈ C07.sel cnt (candidates label order is3mr fr) cap
      ∧ combo.Sublist ((names fr).filter (fun c => c ≠ label))
      ∧ combo.length = (if is3mr then 2 else order)
      ∧ col = ((if is3mr then " AND_REL " else " AND ").intercalate combo, interCol h64 fr combo) := by
  obtain ⟨combo, hsel, rfl⟩ := mem_interBlock h
  have hcand := mem_candidates (C07.sel_subset cnt _ cap combo hsel)
  exact ⟨combo, hsel, hcand.1, hcand.2, rfl⟩

/-- C10-5c: when the joined names of the selected combinations are pairwise distinct, exactly
`min cap (n choose k)` columns are appended, in sampler order. -/
theorem count (h64 : String → String) (label : String) (order cap : Nat) (is3mr : Bool)
    (cnt : List String → Nat) (fr : Frame) (ho : 1 < order)
    (hn : ((C07.sel cnt (candidates label order is3mr fr) cap).map ((joinStr is3mr).intercalate)).Nodup) :
    (combine h64 label order cap is3mr cnt fr).2.2
        = fr ++ (C07.sel cnt (candidates label order is3mr fr) cap).map
            (fun combo => ((joinStr is3mr).intercalate combo, interCol h64 fr combo))
    ∧ (C07.sel cnt (candidates label order is3mr fr) cap).length
        = min cap (Nat.choose ((names fr).filter (fun c => c ≠ label)).length (if is3mr then 2 else order)) := by
  constructor
  · show fr ++ interBlock h64 fr is3mr (C07.sel cnt (candidates label order is3mr fr) cap) = _
    rw [interBlock, dictOfList_of_nodup]
    rwa [List.map_map]
  · rw [C07.sel_length, candidates, if_pos ho, combos_length_eq]

/-- the sampler's counter after the call is the C07 counter bumped by exactly the selected combinations (so the fairness
and accounting theorems of C07 apply to interaction candidates verbatim) -/
theorem counter_is_C07 (h64 : String → String) (label : String) (order cap : Nat) (is3mr : Bool)
    (cnt : List String → Nat) (fr : Frame) :
    (combine h64 label order cap is3mr cnt fr).1 = (C07.call cnt (candidates label order is3mr fr) cap).1
    ∧ (combine h64 label order cap is3mr cnt fr).2.1 = C07.sel cnt (candidates label order is3mr fr) cap :=
  ⟨rfl, rfl⟩

/-! non-vacuity: a concrete frame with prefix/suffix values; the identity "hash" is collision-free -/
example : NoCollision id [("a", ["1", "11"]), ("b", ["11", "1"])] ["a", "b"] := fun _ _ _ _ e => e
example : interCol id [("a", ["1", "11"]), ("b", ["11", "1"])] ["a", "b"] = ["1:12:11", "2:111:1"] := by decide +kernel
example : (combine id "label" 2 5 false (fun _ => 0) [("a", ["1", "11"]), ("label", ["0", "1"]), ("b", ["11", "1"])]).2.2
    = [("a", ["1", "11"]), ("label", ["0", "1"]), ("b", ["11", "1"]), ("a AND b", ["1:12:11", "2:111:1"])] := by decide +kernel
example : concatTuple ["1", "11"] = concatTuple ["11", "1"] := by decide +kernel
example : ∀ x ∈ ["p", "q", "p"], ∀ y ∈ ["p", "q", "p"], focc ["p", "q", "p"] x = focc ["p", "q", "p"] y → x = y :=
  focc_injective _

example : ∀ x ∈ [3, 1, 3], ∀ y ∈ [3, 1, 3],
    rankCode (fun a b : Nat => decide (a < b)) [3, 1, 3] x = rankCode (fun a b : Nat => decide (a < b)) [3, 1, 3] y → x = y :=
  rankCode_injective (fun a b : Nat => decide (a < b)) (fun a => decide_eq_false (Nat.lt_irrefl a))
    (fun _ _ _ h1 h2 => decide_eq_true (Nat.lt_trans (of_decide_eq_true h1) (of_decide_eq_true h2)))
    (fun _ _ h => (Nat.lt_or_gt_of_ne h).imp decide_eq_true decide_eq_true) _

end Construct
