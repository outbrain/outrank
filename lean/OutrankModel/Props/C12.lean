import OutrankModel.Model.C12
import OutrankModel.Gen.Vault
import OutrankModel.Lemmas.C12
/-!
# C12 – transformations compute what their names say; degenerate ones are dropped

`Vault.*` is REGENERATED from the vault source on every run (harness/corr_C12.py `translate`); the theorems of the first
group are re-checked by `decide` over the regenerated tables.  The other groups hold for every registry / column / table.
Numeric evaluation of a formula is numpy's (not modelled): that the emitted cells ARE the denoted formula applied to the parsed
numbers is checked by the tie, which evaluates `denotes name` (this file's spec side) independently on every case.
-/
namespace C12
open Vault

/-! ## 1. every name of minimal / default / fw denotes its formula -/

/-- The one evaluation of the regenerated tables (the kernel shares the encodings of the name literals inside one declaration
only: BUILDING.md).  In the fw clause the parse stands first in the disjunction because the kernel compares a `String` literal
by re-encoding it: searching `defaultT` for a fw entry (ten failing comparisons) is the dear side.  The registry's tables are
read through `nthRec` (`pick_eq`). -/
theorem vault_tables :
    (∀ p ∈ minimalT ++ defaultT, intended p.1 = some p.2) ∧                                  -- `.1`
    ((∀ p ∈ fwT, (parseFwName p.1).map fwTemplate = some p.2 ∨ p ∈ defaultT) ∧               -- `.2.1.1`
      (fwT.filterMap fun p => parseFwName p.1).Perm fwGrid) ∧                                -- `.2.1.2`
    (some (minimalT.map (·.1)) = (registry.lookup "minimal").map keys ∧                      -- `.2.2.1`
      some (defaultT.map (·.1)) = (registry.lookup "default").map keys ∧
      some (fwT.map (·.1)) = (registry.lookup "fw-transformers").map keys) ∧
    strictlyIncreasing (master.toList.map fun p => keyCode p.1) = true := by                 -- `.2.2.2`
  simp only [registry, mkTables, pick_eq]
  decide +kernel

/-- every entry of the minimal and default presets is the formula its name denotes (hand-written name table) -/
theorem named_formula : ∀ p ∈ minimalT ++ defaultT, intended p.1 = some p.2 :=
  vault_tables.1

/-- every fw entry is a default entry or its name parses to (prob, fn, resolution, threshold) and its formula is the template of
exactly that key: the name fully determines the function -/
theorem fw_determined : ∀ p ∈ fwT, p ∈ defaultT ∨ ∃ k, parseFwName p.1 = some k ∧ p.2 = fwTemplate k := by
  intro p hp
  rcases vault_tables.2.1.1 p hp with h | h
  · obtain ⟨k, hk, e⟩ := Option.map_eq_some_iff.1 h
    exact Or.inr ⟨k, hk, e.symm⟩
  · exact Or.inl h

/-- the name parser is injective on the table: no two fw entries carry the same (prob, fn, resolution, threshold) -/
theorem fw_parse_injective : (fwT.filterMap fun p => parseFwName p.1).Nodup :=
  vault_tables.2.1.2.nodup_iff.2 fwGrid_nodup

/-- the fw entries are exactly the full 2 × 4 × 8 × 2 grid of the source (128 keys) -/
theorem fw_full_grid : ∀ k, k ∈ fwGrid ↔ k ∈ fwT.filterMap fun p => parseFwName p.1 :=
  fun _ => vault_tables.2.1.2.mem_iff.symm

/-- for ALL literal texts (not only the current grid): parsing a printed fw name returns the key it was printed from -/
theorem fw_name_roundtrip (k : FwKey) (hres : isLit k.res = true) (hgt : isLit k.gt = true) :
    parseFwChars (fwNameChars k) = some k := by
  obtain ⟨prob, fn, res, gt⟩ := k
  have hb : breakOn sepGt (res ++ (sepGt ++ gt)) = some (res, gt) :=
    breakOn_append (fun hm => by
      simp only [isLit, Bool.and_eq_true, List.all_eq_true] at hres
      exact absurd (hres.2 _ hm) (by decide)) _ gt
  unfold parseFwChars fwNameChars
  simp only [List.append_assoc, stripPrefix_append]
  cases prob <;> cases fn <;>
    simp [FwFn.chars, pfxProb, pfxSqrt, pfxLog, sepRes, stripPrefix, hb, hres, hgt]

/-- hence two well-formed keys printed to the same name are the same key and have the same formula -/
theorem fw_name_determines (k₁ k₂ : FwKey) (h₁ : isLit k₁.res = true ∧ isLit k₁.gt = true)
    (h₂ : isLit k₂.res = true ∧ isLit k₂.gt = true) (h : fwNameChars k₁ = fwNameChars k₂) :
    k₁ = k₂ ∧ fwTemplate k₁ = fwTemplate k₂ := by
  have e : some k₁ = some k₂ := by
    rw [← fw_name_roundtrip k₁ h₁.1 h₁.2, ← fw_name_roundtrip k₂ h₂.1 h₂.2, h]
  cases e; exact ⟨rfl, rfl⟩

/-- the single characterisation the oracle uses: every entry of the three presets is `denotes` of its name -/
theorem all_denote : ∀ p ∈ minimalT ++ defaultT ++ fwT, denotes p.1 = some p.2 := by
  have named : ∀ p ∈ minimalT ++ defaultT, denotes p.1 = some p.2 := fun p hp => by
    rw [denotes, named_formula p hp]
  intro p hp
  rcases List.mem_append.1 hp with hp | hp
  · exact named p hp
  · rcases fw_determined p hp with hd | ⟨k, hk, e⟩
    · exact named p (List.mem_append_right _ hd)
    · rw [denotes, intended_eq_none_of_parse hk, hk, e]; rfl

/-- every formula of the three presets yields one value per row (no bare reduction at the top) -/
theorem per_row : ∀ p ∈ minimalT ++ defaultT ++ fwT, p.2.perRow = true :=
  fun p hp => perRow_denotes (all_denote p hp)

/-- the expression tables carry exactly the names (in order) that the registry holds for these presets -/
theorem tables_match_registry :
    some (minimalT.map (·.1)) = (registry.lookup "minimal").map keys ∧
    some (defaultT.map (·.1)) = (registry.lookup "default").map keys ∧
    some (fwT.map (·.1)) = (registry.lookup "fw-transformers").map keys :=
  vault_tables.2.2.1

/-! ## 2. a comma-separated list of preset names selects the union -/
section Select
variable {K F : Type} [DecidableEq K]

/-- a selection exists iff every named preset is known and non-empty (otherwise NotImplementedError) -/
theorem select_defined_iff (reg : List (String × List (K × F))) (names : List String) :
    (selectNames reg names).isSome ↔ ∀ nm ∈ names, ∃ t, reg.lookup nm = some t ∧ t ≠ [] :=
  selectFrom_isSome reg names []

/-- the override rule, for every registry: the formula of a name is the one of the LAST named preset that has it -/
theorem select_lookup (reg : List (String × List (K × F))) (names : List String) (t : List (K × F))
    (h : selectNames reg names = some t) (k : K) : t.lookup k = lastDef reg k none names :=
  selectFrom_lookup reg names [] t h k

/-- the selected names are exactly the union of the names of the named presets -/
theorem preset_union_keys (reg : List (String × List (K × F))) (names : List String) (t : List (K × F))
    (h : selectNames reg names = some t) (k : K) :
    k ∈ keys t ↔ ∃ nm ∈ names, ∃ tn, reg.lookup nm = some tn ∧ k ∈ keys tn := by
  simp only [← lookup_isSome_iff_mem_keys, select_lookup reg names t h k, lastDef_isSome_iff]

/-- with a consistent registry the selection is the union as a MAP: a name carries formula `f` iff some named preset gives it `f` -/
theorem preset_union (reg : List (String × List (K × F))) (hc : Consistent reg) (names : List String) (t : List (K × F))
    (h : selectNames reg names = some t) (k : K) (f : F) :
    t.lookup k = some f ↔ ∃ nm ∈ names, ∃ tn, reg.lookup nm = some tn ∧ tn.lookup k = some f := by
  rw [select_lookup reg names t h k]
  refine ⟨lastDef_source, ?_⟩
  rintro ⟨nm, hn, tn, hr, hf⟩
  -- the selection defines `k`; its value comes from some named preset, which agrees with `tn`
  obtain ⟨g, hg⟩ := Option.isSome_iff_exists.1 (lastDef_isSome_iff.2 ⟨nm, hn, tn, hr, Option.isSome_iff_exists.2 ⟨f, hf⟩⟩)
  obtain ⟨nm', -, tn', hr', hg'⟩ := lastDef_source hg
  rw [hg, hc _ _ _ _ _ _ _ hr' hr hg' hf]

/-- hence the order (and repetition) of the names is unobservable -/
theorem select_order_irrelevant (reg : List (String × List (K × F))) (hc : Consistent reg) (n₁ n₂ : List String)
    (hmem : ∀ nm, nm ∈ n₁ ↔ nm ∈ n₂) (t₁ t₂ : List (K × F))
    (h₁ : selectNames reg n₁ = some t₁) (h₂ : selectNames reg n₂ = some t₂) (k : K) : t₁.lookup k = t₂.lookup k := by
  apply Option.ext
  intro f
  simp only [preset_union reg hc n₁ t₁ h₁, preset_union reg hc n₂ t₂ h₂, hmem]

/-- the selection is a dictionary (no name twice) when the presets are -/
theorem select_keys_nodup (reg : List (String × List (K × F))) (hreg : ∀ nm t, reg.lookup nm = some t → (keys t).Nodup)
    (names : List String) (t : List (K × F)) (h : selectNames reg names = some t) : (keys t).Nodup :=
  selectFrom_keys_nodup hreg (acc := []) List.nodup_nil h

omit [DecidableEq K] in
/-- F7: the code before the repair kept only the LAST named preset -/
theorem old_last_wins (reg : List (String × List (K × F))) (names : List String) (t : List (K × F))
    (h : selectOld reg names = some t) (hne : names ≠ []) : reg.lookup (names.getLast hne) = some t := by
  fun_induction selectOld reg names with
  | case1 => exact absurd rfl hne
  | case4 nm tn hr he => cases h; exact hr
  | case7 nm rest hrest tn hr he ih => rw [List.getLast_cons hrest]; exact ih h hrest
  | _ => cases h  -- unknown or empty namespace: `selectOld` has failed

end Select

/-- the six presets of the vault agree on every name they share (so the override order of `select_lookup` is unobservable) -/
theorem registry_consistent : Consistent registry :=
  consistent_of_sorted master tableIdx presets vault_tables.2.2.2

/-- the property's last clause for the real vault: any list of preset names selects the union of those presets -/
theorem vault_union (names : List String) (t : List (String × String)) (h : selectNames registry names = some t)
    (k f : String) : t.lookup k = some f ↔ ∃ nm ∈ names, ∃ tn, registry.lookup nm = some tn ∧ tn.lookup k = some f :=
  preset_union registry registry_consistent names t h k f

/-! ## 3. the emit rule -/

/-- emitted iff more than one distinct value, the most frequent value covers < 80 % of the rows, and < 75 % of the cells are NaN
(integer form; `Model/C12.lean` explains why it equals the float tests) -/
theorem keep_rule (col : List String) :
    keep col = true ↔ (∃ a ∈ col, ∃ b ∈ col, a ≠ b) ∧ (∀ v, 100 * col.count v < 80 * col.length) ∧
      100 * col.count "nan" < 75 * col.length := by
  unfold keep nanCount
  simp only [Bool.and_eq_true, decide_eq_true_eq]
  rw [one_lt_eraseDups_length_iff, and_assoc]
  refine and_congr_right fun _ => and_congr_left fun _ => ?_
  constructor
  · intro h v
    exact Nat.lt_of_le_of_lt (Nat.mul_le_mul_left 100 (count_le_maxFreq col v)) h
  · intro h
    by_cases hc : col = []
    · have := h ""; subst hc; simp at this
    · obtain ⟨v, _, hv⟩ := maxFreq_attained col hc
      rw [← hv]; exact h v

/-! ## 4. the emitted columns -/

/-- a column is emitted iff it is `feature ++ transformer` for a numeric column and a selected transformer, holds that
transformer's text and passes the emit rule -/
theorem emitted_iff {α F : Type} (ev : F → List α → List String) (tbl : List (String × F)) (cols : List (String × List α))
    (name : String) (t : List String) :
    (name, t) ∈ construct ev tbl cols ↔
      ∃ feat xs k f, (feat, xs) ∈ cols ∧ (k, f) ∈ tbl ∧ name = feat ++ k ∧ t = ev f xs ∧ keep t = true := by
  simp only [construct, List.mem_flatMap, List.mem_filterMap, Prod.exists, Option.ite_none_right_eq_some, Option.some.injEq,
    Prod.mk.injEq]
  constructor
  · rintro ⟨feat, xs, hc, k, f, hk, hkeep, rfl, rfl⟩
    exact ⟨feat, xs, k, f, hc, hk, rfl, rfl, hkeep⟩
  · rintro ⟨feat, xs, k, f, hc, hk, rfl, rfl, hkeep⟩
    exact ⟨feat, xs, hc, k, f, hk, hkeep, rfl, rfl⟩

/-- one text value per row, whenever evaluation is per-row -/
theorem emitted_length {α F : Type} (ev : F → List α → List String) (hev : ∀ f xs, (ev f xs).length = xs.length)
    (tbl : List (String × F)) (cols : List (String × List α)) (name : String) (t : List String)
    (h : (name, t) ∈ construct ev tbl cols) : ∃ feat xs, (feat, xs) ∈ cols ∧ t.length = xs.length := by
  obtain ⟨feat, xs, k, f, hc, _, _, rfl, _⟩ := (emitted_iff ev tbl cols name t).1 h
  exact ⟨feat, xs, hc, hev f xs⟩

theorem getVals_length {α : Type} (parse : String → α) (zero : α) (cells : List String) :
    (getVals parse zero cells).length = cells.length := by
  simp [getVals]

example : selectNames registry ["minimal"] = registry.lookup "minimal" := by
  simp only [registry, mkTables, pick_eq]  -- read the master table through `nthRec`, as in `vault_tables`
  decide +kernel
set_option maxRecDepth 100000 in
example : fwGrid.length = 128 := by decide +kernel
set_option maxRecDepth 100000 in
example : minimalT ≠ [] ∧ defaultT ≠ [] ∧ fwT ≠ [] := by decide +kernel
example : parseFwName "_tr_fw_prob_log_res_100_gt_0.64" = some ⟨true, .log, ['1', '0', '0'], ['0', '.', '6', '4']⟩ := by decide +kernel
/-- boundaries of the emit rule: exactly 4/5 equal ⇒ dropped, one fewer ⇒ kept; exactly 3/4 NaN ⇒ dropped -/
example : keep ["1", "1", "1", "1", "2"] = false ∧ keep ["1", "1", "1", "2", "3"] = true ∧
    keep ["nan", "nan", "nan", "2"] = false ∧ keep ["nan", "nan", "2", "3"] = true ∧ keep ["1", "1"] = false := by decide +kernel
/-- F7 on a toy registry: the old loop drops the first preset, the repaired one returns the union -/
example : selectOld [("a", [(1, "x")]), ("b", [(2, "y")])] ["a", "b"] = some [(2, "y")] ∧
    selectNames [("a", [(1, "x")]), ("b", [(2, "y")])] ["a", "b"] = some [(1, "x"), (2, "y")] := by decide +kernel

end C12
