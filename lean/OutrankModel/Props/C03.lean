import OutrankModel.Lemmas.MIBridge
/-!
# C03 – cardinality correction subtracts the displaced-copy noise floor
-/
namespace MI

/-- C03-1: with correction on, the score of feature Y against target X is `H(Y* | X) − H(Y | X)`. -/
theorem corrected_identity (Y X : List Nat) (h : Y.length = X.length) (hn : 0 < X.length) (hne : Y ≠ X) :
    estimator realOps Y X 1 1 true = .ok (condEntropy (ystar Y X) X - condEntropy Y X) :=
  estimator_corr Y X h hne

/-- the executable list-form spec the driver evaluates is that difference -/
theorem correctedSpecL_eq (Y X : List Nat) (h : Y.length = X.length) :
    correctedSpecL realOps Y X = condEntropy (ystar Y X) X - condEntropy Y X :=
  correctedSpecL_real Y X

/-- C03-2: a constant feature scores 0 against every target. -/
theorem corrected_const (Y X : List Nat) (h : Y.length = X.length) (hn : 0 < X.length)
    (hc : ∀ a ∈ Y, ∀ b ∈ Y, a = b) : estimator realOps Y X 1 1 true = .ok 0 := by
  by_cases hYX : Y = X
  · subst hYX
    rw [estimator_self_entropy, entropy_const Y hc]
  · rw [estimator_corr Y X h hYX, condEntropy_const Y X h hn hc,
      condEntropy_const (ystar Y X) X (length_ystar Y X) hn
        (fun a ha b hb => hc a (mem_ystar Y X (h ▸ hn) ha) b (mem_ystar Y X (h ▸ hn) hb)), sub_zero]

/-- C03-3: an all-distinct identifier feature scores 0 against every (other) target. -/
theorem corrected_alldistinct (Y X : List Nat) (h : Y.length = X.length) (hn : 0 < X.length)
    (hd : Y.Nodup) (hne : Y ≠ X) : estimator realOps Y X 1 1 true = .ok 0 :=
  estimator_alldistinct Y X h hd hne

/-- C03-4: a feature scored against itself scores its entropy. -/
theorem corrected_self (X : List Nat) (hn : 0 < X.length) :
    estimator realOps X X 1 1 true = .ok (entropy X) :=
  estimator_self_entropy X true

example : ([0, 1, 2, 3] : List Nat).Nodup ∧ ([0, 1, 2, 3] : List Nat) ≠ [0, 0, 1, 1] := by decide

end MI
