import OutrankModel.Lemmas.C06
import OutrankModel.Props.C07
/-!
# C06 – the rank graph covers exactly the requested pairs, in both orientations

Property theorems about the definitions of `Model/C06.lean` (the same `def`s the driver executes), for ALL
duplicate-free column lists of any length with the label anywhere, both scopes, 3MR / non-3MR, every cap, every
state of the sampler's counter, every scoring function, every shuffle, and every `isRel` / `le`.
Core Lean, no Mathlib.
-/
namespace C06
set_option linter.unusedSectionVars false
variable {α : Type} [DecidableEq α]

/-- in every mode: no pair of two different columns is listed in both orientations (it would be scored twice) -/
theorem one_orientation (le : α → α → Bool) (isRel : α → Bool) (cols : List α) (label : α) (hc : cols.Nodup)
    (tO m3 : Bool) (a b : α) (h1 : (a, b) ∈ combos le isRel cols label tO m3)
    (h2 : (b, a) ∈ combos le isRel cols label tO m3) : a = b := by
  have hS : (if m3 then nonRel le isRel cols else cols).Nodup := by
    cases m3
    · exact hc
    · exact nonRel_nodup le isRel cols
  -- each of the two is a pair of the base list, a relation column with the label, or diagonal
  rcases mem_combos.mp h1 with ⟨h, -⟩ | ⟨rfl, -, hr, hl⟩ | ⟨-, h⟩
  · rcases mem_combos.mp h2 with ⟨h', -⟩ | ⟨rfl, -, hr', -⟩ | ⟨-, h'⟩
    · exact cwr_antisymm hS h h'
    · exact absurd (hr'.symm.trans (mem_nonRel.mp (mem_cwr_mem h).2).2) Bool.noConfusion
    · exact (mem_diag.mp h').1.symm
  · rcases mem_combos.mp h2 with ⟨h', -⟩ | ⟨-, -, -, hl'⟩ | ⟨-, h'⟩
    · exact absurd (hr.symm.trans (mem_nonRel.mp (mem_cwr_mem h').2).2) Bool.noConfusion
    · exact hl'.trans hl.symm
    · exact (mem_diag.mp h').1.symm
  · exact (mem_diag.mp h).1

/-! ## C06-1  target-only, non-3MR: exactly every column paired with the label (label–label included), each once -/

/-- closed form, with the label at ANY position, in the order of the code -/
theorem targetOnly_closed_form (le : α → α → Bool) (isRel : α → Bool) (pre post : List α) (label : α)
    (h : (pre ++ label :: post).Nodup) :
    combos le isRel (pre ++ label :: post) label true false
      = pre.map (fun c => (c, label)) ++ (label :: post).map (fun c => (label, c)) := by
  rw [combos_target]; exact filter_label_cwr pre post label h

/-- as unordered pairs the list is `{{c, label} | c ∈ cols}`, each exactly once -/
theorem targetOnly_each_once (le : α → α → Bool) (isRel : α → Bool) (cols : List α) (label : α)
    (hc : cols.Nodup) (hl : label ∈ cols) :
    (combos le isRel cols label true false).length = cols.length
    ∧ (combos le isRel cols label true false).Nodup
    ∧ (∀ p ∈ combos le isRel cols label true false, (p.1 = label ∨ p.2 = label) ∧ p.1 ∈ cols ∧ p.2 ∈ cols)
    ∧ (∀ c ∈ cols, (c, label) ∈ combos le isRel cols label true false ∨ (label, c) ∈ combos le isRel cols label true false)
    ∧ (∀ a b, (a, b) ∈ combos le isRel cols label true false → (b, a) ∈ combos le isRel cols label true false → a = b) := by
  refine ⟨?_, ?_, ?_, ?_, ?_⟩
  · obtain ⟨pre, post, rfl⟩ := List.append_of_mem hl
    rw [targetOnly_closed_form le isRel pre post label hc]
    simp
  · rw [combos_target]; exact List.Nodup.sublist List.filter_sublist (cwr_nodup hc)
  · intro p hp
    have h := requested_of_mem hp
    exact ⟨h.2.2 rfl, h.1, h.2.1⟩
  · exact fun c hcm => cover_of_requested ⟨hcm, hl, fun _ => Or.inr rfl⟩
  · exact one_orientation le isRel cols label hc true false

/-! ## C06-2  pairwise, non-3MR: every unordered pair of columns, each column with itself; nothing else -/

theorem pairwise_exact (le : α → α → Bool) (isRel : α → Bool) (cols : List α) (label : α) (hc : cols.Nodup) :
    (∀ p ∈ combos le isRel cols label false false, p.1 ∈ cols ∧ p.2 ∈ cols)
    ∧ (∀ a ∈ cols, ∀ b ∈ cols, (a, b) ∈ combos le isRel cols label false false ∨ (b, a) ∈ combos le isRel cols label false false)
    ∧ (∀ a ∈ cols, (a, a) ∈ combos le isRel cols label false false)
    ∧ (∀ a b, (a, b) ∈ combos le isRel cols label false false → (b, a) ∈ combos le isRel cols label false false → a = b) := by
  refine ⟨fun p hp => ?_, fun a ha b hb => cover_of_requested ⟨ha, hb, nofun⟩, fun a ha => ?_,
    one_orientation le isRel cols label hc false false⟩
  · have h := requested_of_mem hp
    exact ⟨h.1, h.2.1⟩
  · exact mem_combos.mpr (Or.inl ⟨cwr_self ha, nofun⟩)

/-- the quirk of the extra "diagonal" list, stated exactly: a pair of different columns is listed once (in one
orientation), `(label, label)` once, and `(c, c)` TWICE for every non-label column -/
theorem pairwise_multiplicity (le : α → α → Bool) (isRel : α → Bool) (cols : List α) (label : α) (hc : cols.Nodup)
    (p : α × α) :
    (combos le isRel cols label false false).count p
      = (if p ∈ cwr cols then 1 else 0) + (if p.1 = p.2 ∧ p.1 ∈ cols ∧ p.1 ≠ label then 1 else 0) := by
  rw [combos_pairwise, List.count_append, (cwr_nodup hc).count, (diag_nodup hc label).count]
  simp only [mem_diag]

theorem pairwise_length (le : α → α → Bool) (isRel : α → Bool) (cols : List α) (label : α) (hc : cols.Nodup)
    (hl : label ∈ cols) :
    2 * (combos le isRel cols label false false).length + 2 = cols.length * (cols.length + 1) + 2 * cols.length := by
  rw [combos_pairwise, List.length_append, Nat.mul_add, cwr_length, ← diag_length hc hl]
  rfl

/-! ## C06-3  3MR: non-relation columns pairwise (self-pairs included), relation columns with the label only,
plus – unless target-only – `(c, c)` for every non-label column -/

theorem threemr_exact (le : α → α → Bool) (isRel : α → Bool) (cols : List α) (label : α) (tO : Bool) :
    (∀ a ∈ cols, ∀ b ∈ cols, isRel a = false → isRel b = false →
        (a, b) ∈ combos le isRel cols label tO true ∨ (b, a) ∈ combos le isRel cols label tO true)
    ∧ (∀ r ∈ cols, isRel r = true → (r, label) ∈ combos le isRel cols label tO true)
    ∧ (tO = false → ∀ c ∈ cols, c ≠ label → (c, c) ∈ combos le isRel cols label tO true)
    ∧ (∀ p ∈ combos le isRel cols label tO true,
        (p.1 ∈ cols ∧ p.2 ∈ cols ∧ isRel p.1 = false ∧ isRel p.2 = false)
        ∨ (p.1 ∈ cols ∧ isRel p.1 = true ∧ p.2 = label)
        ∨ (tO = false ∧ p.1 = p.2 ∧ p.1 ∈ cols ∧ p.1 ≠ label)) :=
  ⟨fun _ ha _ hb ra rb => cover_of_requested (Or.inl ⟨ha, hb, ra, rb⟩),
    fun _ hr rr => mem_combos.mpr (Or.inr (Or.inl ⟨rfl, hr, rr, rfl⟩)),
    fun ht _ hcm hne => mem_combos.mpr (Or.inr (Or.inr ⟨ht, mem_diag.mpr ⟨rfl, hcm, hne⟩⟩)),
    fun _ hp => requested_of_mem hp⟩

/-- relation columns are paired with nothing but the label (and, unless target-only, with themselves on the diagonal) -/
theorem threemr_rel_partner (le : α → α → Bool) (isRel : α → Bool) (cols : List α) (label : α) (tO : Bool)
    (p : α × α) (hp : p ∈ combos le isRel cols label tO true)
    (hr : isRel p.1 = true ∨ isRel p.2 = true) :
    isRel p.1 = true ∧ (p.2 = label ∨ (tO = false ∧ p.2 = p.1)) := by
  rcases requested_of_mem hp with ⟨_, _, h1, h2⟩ | ⟨_, h1, h2⟩ | ⟨ht, h1, _, _⟩
  · rcases hr with h | h
    · rw [h1] at h; cases h
    · rw [h2] at h; cases h
  · exact ⟨h1, Or.inl h2⟩
  · rcases hr with h | h
    · exact ⟨h, Or.inr ⟨ht, h1.symm⟩⟩
    · exact ⟨h1 ▸ h, Or.inr ⟨ht, h1.symm⟩⟩

/-! ## C06-4  rows: both orientations of every evaluated pair with identical scores; `Constant`: each pair once, score 0 -/

section rows
variable {σ : Type}

/-- the emitted rows are exactly `inv, triplet` for every scored triplet -/
theorem rows_mirrored (tr : List (α × α × σ)) :
    rows false tr = tr.flatMap (fun t => [(t.2.1, t.1, t.2.2), t]) := rfl

theorem rows_both_orientations (tr : List (α × α × σ)) (a b : α) (s : σ) :
    (a, b, s) ∈ rows false tr ↔ (b, a, s) ∈ rows false tr :=
  mem_mirror.trans (Or.comm.trans mem_mirror.symm)

theorem rows_of_evaluated (score : α × α → σ) (ev : List (α × α)) (p : α × α) (hp : p ∈ ev) :
    (p.1, p.2, score p) ∈ rows false (evaluate score ev) ∧ (p.2, p.1, score p) ∈ rows false (evaluate score ev) := by
  have hm : (p.1, p.2, score p) ∈ evaluate score ev := mem_evaluate.mpr ⟨hp, rfl⟩
  exact ⟨mem_mirror.mpr (Or.inl hm), mem_mirror.mpr (Or.inr hm)⟩

theorem rows_only_evaluated (score : α × α → σ) (ev : List (α × α)) (a b : α) (s : σ)
    (h : (a, b, s) ∈ rows false (evaluate score ev)) :
    ((a, b) ∈ ev ∧ s = score (a, b)) ∨ ((b, a) ∈ ev ∧ s = score (b, a)) :=
  (mem_mirror.mp h).imp mem_evaluate.mp mem_evaluate.mp

/-- as multisets too: every row occurs exactly as often as its mirror image -/
theorem rows_count_mirror [DecidableEq σ] (tr : List (α × α × σ)) (a b : α) (s : σ) :
    (rows false tr).count (a, b, s) = (rows false tr).count (b, a, s) :=
  (count_mirror tr (a, b, s)).trans ((Nat.add_comm ..).trans (count_mirror tr (b, a, s)).symm)

theorem rows_length (tr : List (α × α × σ)) : (rows false tr).length = 2 * tr.length := mirror_length tr

/-- `Constant`: every evaluated pair exactly once, in the order evaluated, with score 0 -/
theorem rows_constant (zero : σ) (ev : List (α × α)) :
    rows true (evaluate (fun _ => zero) ev) = ev.map (fun p => (p.1, p.2, zero)) := rfl

end rows

/-! ## C06-5  the whole batch: reduced only by the cap, no foreign column -/

section batch
variable {σ : Type}

/-- the shuffle only permutes C07's selection, so every fact below is the sampler's -/
theorem evaluated_perm (shuffle : List (α × α) → List (α × α)) (hs : ∀ l, (shuffle l).Perm l)
    (cnt : α × α → Nat) (cs : List (α × α)) (cap : Nat) :
    (evaluatedPairs shuffle cnt cs cap).Perm (C07.sel cnt cs cap) := hs _

/-- the pairs handed to the scorer are `min cap |combos|` of the requested pairs (a sub-multiset of the list) -/
theorem evaluated_length (shuffle : List (α × α) → List (α × α)) (hs : ∀ l, (shuffle l).Perm l)
    (cnt : α × α → Nat) (cs : List (α × α)) (cap : Nat) :
    (evaluatedPairs shuffle cnt cs cap).length = min cap cs.length := by
  rw [(evaluated_perm shuffle hs cnt cs cap).length_eq, C07.sel_length]

theorem evaluated_count_le (shuffle : List (α × α) → List (α × α)) (hs : ∀ l, (shuffle l).Perm l)
    (cnt : α × α → Nat) (cs : List (α × α)) (cap : Nat) (p : α × α) :
    (evaluatedPairs shuffle cnt cs cap).count p ≤ cs.count p := by
  rw [(evaluated_perm shuffle hs cnt cs cap).count_eq]
  exact C07.sel_count_le cnt cs cap p

theorem evaluated_subset (shuffle : List (α × α) → List (α × α)) (hs : ∀ l, (shuffle l).Perm l)
    (cnt : α × α → Nat) (cs : List (α × α)) (cap : Nat) :
    ∀ p ∈ evaluatedPairs shuffle cnt cs cap, p ∈ cs :=
  fun p hp => C07.sel_subset cnt cs cap p ((evaluated_perm shuffle hs cnt cs cap).mem_iff.mp hp)

/-- "reduced ONLY by the cap": when the cap does not bite, every requested pair is evaluated, as often as listed -/
theorem evaluated_all (shuffle : List (α × α) → List (α × α)) (hs : ∀ l, (shuffle l).Perm l)
    (cnt : α × α → Nat) (cs : List (α × α)) (cap : Nat) (hcap : cs.length ≤ cap) :
    (evaluatedPairs shuffle cnt cs cap).Perm cs :=
  (evaluated_perm shuffle hs cnt cs cap).trans (C07.sel_perm cnt cs cap hcap)

/-- the cap in force: the 3MR branch clamps it to 10^4, otherwise it is the configured one -/
theorem effCap_eq (m3 : Bool) (cap : Nat) : effCap m3 cap = if m3 = true ∧ 10000 < cap then 10000 else cap := by
  cases m3 <;> simp [effCap]

/-- no row of a batch mentions a column outside the batch's feature space (all modes, all caps, both row shapes) -/
theorem batch_rows_names (le : α → α → Bool) (isRel : α → Bool) (shuffle : List (α × α) → List (α × α))
    (hs : ∀ l, (shuffle l).Perm l) (score : α × α → σ) (zero : σ) (cnt : α × α → Nat) (cols : List α) (label : α)
    (hl : label ∈ cols) (tO m3 constant : Bool) (cap : Nat) :
    ∀ t ∈ (batch le isRel shuffle score zero cnt cols label tO m3 constant cap).2, t.1 ∈ cols ∧ t.2.1 ∈ cols := by
  intro t ht
  have key : ∀ {sc : α × α → σ} {t : α × α × σ},
      t ∈ evaluate sc (evaluatedPairs shuffle cnt (combos le isRel cols label tO m3) (effCap m3 cap)) →
      t.1 ∈ cols ∧ t.2.1 ∈ cols :=
    fun h => combos_names hl tO m3 (evaluated_subset shuffle hs cnt _ _ _ (mem_evaluate.mp h).1)
  rcases mem_rows (show t ∈ rows constant _ from ht) with h | h
  · exact key h
  · exact (key h).symm

/-- the sampler's counter after the batch is C07's: one increment per evaluated pair -/
theorem batch_counter (le : α → α → Bool) (isRel : α → Bool) (shuffle : List (α × α) → List (α × α))
    (score : α × α → σ) (zero : σ) (cnt : α × α → Nat) (cols : List α) (label : α) (tO m3 constant : Bool) (cap : Nat) :
    (batch le isRel shuffle score zero cnt cols label tO m3 constant cap).1
      = (C07.call cnt (combos le isRel cols label tO m3) (effCap m3 cap)).1 := rfl

end batch

/-! ## the oracle predicates the driver evaluates on the IMPLEMENTATION's outputs accept the model, for all inputs -/

theorem allowedB_iff {isRel : α → Bool} {cols : List α} {label : α} {tO m3 : Bool} {p : α × α} :
    allowedB isRel cols label tO m3 p = true ↔ Requested isRel cols label tO m3 p := by
  cases m3 <;> cases tO <;> simp [allowedB, Requested, and_assoc, or_assoc]

/-- the two lists of the specification agree: every pair that must be covered is a requested one -/
theorem required_requested {isRel : α → Bool} {cols : List α} {label : α} (hl : label ∈ cols) {tO m3 : Bool} {p : α × α}
    (hp : p ∈ required isRel cols label tO m3) : Requested isRel cols label tO m3 p := by
  cases m3
  · cases tO
    · simp only [required, Bool.false_eq_true, if_false, List.mem_flatMap, List.mem_map] at hp
      obtain ⟨a, ha, b, hb, rfl⟩ := hp
      exact ⟨ha, hb, nofun⟩
    · simp only [required, Bool.false_eq_true, if_false, if_true, List.mem_map] at hp
      obtain ⟨c, hcm, rfl⟩ := hp
      exact ⟨hcm, hl, fun _ => Or.inr rfl⟩
  · simp only [required, if_true, List.mem_append, List.mem_flatMap, List.mem_map, List.mem_filter,
      Bool.not_eq_true'] at hp
    rcases hp with (⟨a, ⟨ha, ra⟩, b, ⟨hb, rb⟩, rfl⟩ | ⟨r, ⟨hr, rr⟩, rfl⟩) | hp
    · exact Or.inl ⟨ha, hb, ra, rb⟩
    · exact Or.inr (Or.inl ⟨hr, rr, rfl⟩)
    · cases tO
      · exact Or.inr (Or.inr ⟨rfl, mem_diag.mp hp⟩)
      · cases hp

theorem specCombos_model (le : α → α → Bool) (isRel : α → Bool) (cols : List α) (label : α)
    (hc : cols.Nodup) (hl : label ∈ cols) (tO m3 : Bool) :
    specCombos isRel cols label tO m3 (combos le isRel cols label tO m3) = true := by
  unfold specCombos
  simp only [Bool.and_eq_true, List.all_eq_true, Bool.or_eq_true]
  refine ⟨⟨fun p hp => Or.inl (allowedB_iff.mpr (requested_of_mem hp)), fun p hp => ?_⟩, fun p hp => ?_⟩
  · simpa [coversB, swap] using cover_of_requested (le := le) (required_requested hl hp)
  · by_cases hab : p.1 = p.2
    · exact Or.inl (beq_iff_eq.mpr hab)
    · refine Or.inr ?_
      simp only [swap, Bool.not_eq_true', List.contains_eq_mem, decide_eq_false_iff_not]
      exact fun h2 => hab (one_orientation le isRel cols label hc tO m3 p.1 p.2 hp h2)

theorem specBatch_model {σ : Type} [DecidableEq σ] (le : α → α → Bool) (isRel : α → Bool)
    (shuffle : List (α × α) → List (α × α)) (hs : ∀ l, (shuffle l).Perm l) (score : α × α → σ) (zero : σ)
    (cnt : α × α → Nat) (cols : List α) (label : α) (hl : label ∈ cols) (tO m3 constant : Bool) (cap : Nat) :
    specBatch cols constant zero (combos le isRel cols label tO m3) (effCap m3 cap)
      (evaluatedPairs shuffle cnt (combos le isRel cols label tO m3) (effCap m3 cap))
      (batch le isRel shuffle score zero cnt cols label tO m3 constant cap).2 = true := by
  unfold specBatch
  simp only [Bool.and_eq_true, List.all_eq_true, decide_eq_true_eq, List.contains_iff_mem]
  refine ⟨⟨⟨batch_rows_names le isRel shuffle hs score zero cnt cols label hl tO m3 constant cap,
    evaluated_length shuffle hs cnt _ _⟩, fun p _ => evaluated_count_le shuffle hs cnt _ _ p⟩, ?_⟩
  cases constant
  · simp only [Bool.false_eq_true, if_false, Bool.and_eq_true, decide_eq_true_eq, List.all_eq_true,
      List.any_eq_true, Bool.or_eq_true, List.contains_iff_mem, beq_iff_eq]
    refine ⟨⟨⟨?_, ?_⟩, ?_⟩, ?_⟩
    · show (rows false (evaluate score _)).length = _
      rw [rows_length]; simp [evaluate]
    · intro p hp
      have := rows_of_evaluated score _ p hp
      exact ⟨(p.1, p.2, score p), this.1, ⟨rfl, rfl⟩, this.2⟩
    · exact fun t _ => rows_count_mirror _ t.1 t.2.1 t.2.2
    · exact fun t ht => (rows_only_evaluated score _ t.1 t.2.1 t.2.2 ht).imp And.left And.left
  · simp only [if_true, decide_eq_true_eq]
    rfl

/-! ## non-vacuity: concrete inputs meeting the hypotheses (label first / in the middle / last; relation columns) -/

example : combos (fun a b => decide (a ≤ b)) (fun _ => false) [5, 2, 9] 2 true false = [(5, 2), (2, 2), (2, 9)] :=
  targetOnly_closed_form _ _ [5] [9] 2 (by decide)
example : combos (fun a b => decide (a ≤ b)) (fun _ => false) [2, 5] 2 false false = [(2, 2), (2, 5), (5, 5), (5, 5)] := by decide
example : combos (fun a b => decide (a ≤ b)) (fun c => decide (10 ≤ c)) [3, 11, 1] 1 false true
    = [(1, 1), (1, 3), (3, 3), (11, 1), (3, 3), (11, 11)] := by decide
example : ([5, 2, 9] : List Nat).Nodup ∧ 2 ∈ [5, 2, 9] := by decide
example : (batch (fun a b => decide (a ≤ b)) (fun _ => false) id (fun p => p.1 + p.2) 0 (fun _ => 0) [5, 2, 9] 2 true false false 2).2
    = [(2, 5, 7), (5, 2, 7), (2, 2, 4), (2, 2, 4)] := by decide
example : ∀ l : List (Nat × Nat), (id l).Perm l := fun l => List.Perm.refl l

end C06
