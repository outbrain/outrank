import OutrankModel.Lemmas.MIBridge
/-!
# C01 – the plain estimator equals the plug-in Shannon mutual information
-/
namespace MI

/-- C01-1/2: with no correction and no subsampling the estimator terminates normally and returns exactly the plug-in MI. -/
theorem estimator_eq_plugin (Y X : List Nat) (h : Y.length = X.length) (hn : 0 < X.length) :
    estimator realOps Y X 1 1 false = .ok (miPlugin Y X) := by
  rw [estimator_plain Y X h, miPlugin_eq_sub Y X h hn]

/-- the executable list-form specifications the driver evaluates are the finset forms -/
theorem pluginL_eq (Y X : List Nat) (h : Y.length = X.length) : pluginL realOps Y X = miPlugin Y X :=
  pluginL_real Y X
theorem entropyL_eq (Y : List Nat) : entropyL realOps Y = entropy Y := by
  unfold entropyL entropy
  simp only [sumL_real, sum_vals]
  rfl
theorem condEntropyL_eq (Y X : List Nat) (h : Y.length = X.length) : condEntropyL realOps Y X = condEntropy Y X :=
  condEntropyL_real Y X

theorem plugin_eq_entropy_sub_cond (Y X : List Nat) (h : Y.length = X.length) (hn : 0 < X.length) :
    miPlugin Y X = entropy Y - condEntropy Y X :=
  miPlugin_eq_sub Y X h hn

/-- C01-3: symmetric in its two arguments. -/
theorem plugin_symm (Y X : List Nat) (h : Y.length = X.length) : miPlugin Y X = miPlugin X Y := by
  unfold miPlugin
  rw [Finset.sum_comm]
  refine Finset.sum_congr rfl (fun c _ => Finset.sum_congr rfl (fun x _ => ?_))
  rw [jc_symm Y X x c, h, mul_comm (X.count x : ℝ) (Y.count c : ℝ)]

/-- C01-4: never negative (Gibbs). -/
theorem plugin_nonneg (Y X : List Nat) (h : Y.length = X.length) (hn : 0 < X.length) : 0 ≤ miPlugin Y X :=
  miPlugin_nonneg Y X h hn

/-- C01-5: zero whenever either vector is constant. -/
theorem plugin_const_left (Y X : List Nat) (h : Y.length = X.length) (hn : 0 < X.length)
    (hc : ∀ a ∈ Y, ∀ b ∈ Y, a = b) : miPlugin Y X = 0 := by
  rw [miPlugin_eq_sub Y X h hn, entropy_const Y hc, condEntropy_const Y X h hn hc, sub_zero]
theorem plugin_const_right (Y X : List Nat) (h : Y.length = X.length) (hn : 0 < X.length)
    (hc : ∀ a ∈ X, ∀ b ∈ X, a = b) : miPlugin Y X = 0 := by
  rw [plugin_symm Y X h]
  exact plugin_const_left X Y h.symm (h ▸ hn) hc

/-- closed form for an all-distinct vector (an identifier column): it determines the other vector, so the plug-in MI is the
other vector's entropy (0 when that one is constant).  This is the reference value of the check's WIDE-STRATUM cases
(10^5 classes in one stratum), where the executable model is not run. -/
theorem plugin_alldistinct_left (Y X : List Nat) (h : Y.length = X.length) (hn : 0 < X.length) (hd : Y.Nodup) :
    miPlugin Y X = entropy X := by
  rw [plugin_symm Y X h, miPlugin_eq_sub X Y h.symm (h ▸ hn), condEntropy_nodup_right X Y h.symm hd, sub_zero]

/-- C01-6: at most the smaller of the two entropies. -/
theorem plugin_le_entropy (Y X : List Nat) (h : Y.length = X.length) (hn : 0 < X.length) :
    miPlugin Y X ≤ min (entropy Y) (entropy X) := by
  apply le_min (miPlugin_le_entropy_left Y X h hn)
  rw [plugin_symm Y X h]
  exact miPlugin_le_entropy_left X Y h.symm (h ▸ hn)

/-- C01-7: a vector scored against itself gives its entropy. -/
theorem estimator_self (X : List Nat) (hn : 0 < X.length) :
    estimator realOps X X 1 1 false = .ok (entropy X) := by
  rw [estimator_eq_plugin X X rfl hn, miPlugin_self X hn]

/-! non-vacuity -/
example : ([0, 1, 0, 2] : List Nat).length = ([1, 1, 0, 0] : List Nat).length ∧ 0 < ([1, 1, 0, 0] : List Nat).length := by
  decide

end MI
