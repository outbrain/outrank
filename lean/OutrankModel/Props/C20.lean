import OutrankModel.Lemmas.C20
import OutrankModel.Lemmas.C20Quant
import OutrankModel.Lemmas.C20Corr
import Mathlib.Analysis.InnerProductSpace.PiL2
/-!
# C20 – derived synthetic structure (correlation, duplicates, combinations, labels, noise, down-sampling) is as declared

Statements about the definitions of `Model/C20.lean` (executed by the driver) and, for the correlation, about the
real-vector model of `generate_correlated` in `Lemmas/C20Corr.lean`.  Randomness: every numpy generator with well-formed
draws (`C19.Rng.WF`; the driver's tape generator is one, `C19.tape_wf`).  Externals (inputs with stated well-formedness):
`sklearn.utils.resample`, `ndarray.argsort`, floating-point linear algebra / QR, k-means.
-/
namespace C20
open C19 (Rng Err)
variable {σ : Type}

/-! ## (2) bookkeeping -/

/-- **duplicates_exact**: every row keeps its cells and gets, appended, the cells of the selected columns in order
(`s[j] = row[idx[j]]`): copied columns equal their sources. -/
theorem duplicates_exact (X : Mat) (idx : List Nat) (X' : Mat) (info : DupInfo) (h : duplicates X idx = .ok (X', info)) :
    X'.length = X.length ∧ ∀ (i : Nat) (row : List Int), X[i]? = some row →
      ∃ s, X'[i]? = some (row ++ s) ∧ s.length = idx.length ∧
        ∀ (j c : Nat), idx[j]? = some c → s[j]? = row[c]? ∧ c < row.length := by
  obtain ⟨_, _, _, hm, _⟩ := duplicates_ok h
  obtain ⟨h1, h2⟩ := mapM_selectCols hm
  refine ⟨h1, fun i row hi => ?_⟩
  obtain ⟨s, hs, hi'⟩ := h2 i row hi
  exact ⟨s, hi', selectCols_spec hs⟩

/-- **duplicates_info**: the self-description records the requested sources and, as `duplicate_indices`, exactly the `k`
new column positions `w, …, w+k-1` (`w` = old width) – the code listed one fewer (defect F12). -/
theorem duplicates_info (r0 : List Int) (rest : Mat) (idx : List Nat) (X' : Mat) (info : DupInfo)
    (h : duplicates (r0 :: rest) idx = .ok (X', info)) :
    info.featureIndices = idx ∧ info.duplicateIndices = List.range' r0.length idx.length ∧
    ∀ c, c ∈ info.duplicateIndices ↔ r0.length ≤ c ∧ c < r0.length + idx.length := by
  obtain ⟨_, _, hX, _, rfl⟩ := duplicates_ok h
  cases hX
  exact ⟨rfl, rfl, fun c => List.mem_range'_1⟩

/-- **combination_linear / combination_ix**: the appended cell is the sum of the selected cells of that row and the recorded
`combination_ix` is the old width. -/
theorem combination_linear (r0 : List Int) (rest : Mat) (idx : List Nat) (X' : Mat) (info : CombInfo)
    (h : combinationLinear (r0 :: rest) idx = .ok (X', info)) :
    info.featureIndices = idx ∧ info.combinationIx = r0.length ∧ X'.length = (r0 :: rest).length ∧
    ∀ (i : Nat) (row : List Int), (r0 :: rest)[i]? = some row →
      ∃ s, selectCols row idx = some s ∧ X'[i]? = some (row ++ [s.sum]) := by
  simp only [combinationLinear] at h
  split at h <;> cases h
  obtain ⟨h1, h2⟩ := mapM_selectCols ‹_›
  exact ⟨rfl, rfl, h1, h2⟩

/-- **self-description** (`correlated_info`, `duplicates_info`, `combination_ix` over ANY history): after any sequence of
combination / correlation / duplication steps on a data set of width `w0`, the column indices listed in `dataset_info`
are – each exactly once – the columns `w0, …, w-1` that were added. -/
theorem info_lists_added_columns (w0 : Nat) (ops : List Op) :
    w0 ≤ (runOps w0 ops).1 ∧ (runOps w0 ops).2.added.Perm (List.range' w0 ((runOps w0 ops).1 - w0)) := by
  obtain ⟨n, h1, h2⟩ := run_added w0 ops
  rw [h1, Nat.add_sub_cancel_left]
  exact ⟨Nat.le_add_right _ _, h2⟩

/-! ## (3) quantile labels -/

/-- **labels_monotone**: for ANY cut points the label is a monotone step function of the decision value. -/
theorem labels_monotone (cuts : List Rat) (d₁ d₂ : Rat) (h : d₁ ≤ d₂) : labelOf cuts d₁ ≤ labelOf cuts d₂ := by
  unfold labelOf
  rw [← List.countP_eq_length_filter, ← List.countP_eq_length_filter]
  exact List.countP_mono_left fun c _ hc => decide_eq_true (lt_of_lt_of_le (of_decide_eq_true hc) h)

/-- the label counts the cut points strictly below the value, so it lies in `0 … |cuts|` -/
theorem label_le_cuts (cuts : List Rat) (d : Rat) : labelOf cuts d ≤ cuts.length := List.length_filter_le _ _

/-- **class sizes** (tie-free decision values): with pairwise distinct decision values, `n ≥ 1` samples and a quantile
position `0 ≤ q ≤ 1`, exactly `⌊(n-1) q⌋ + 1` samples lie at or below numpy's linear-interpolation percentile. -/
theorem count_le_percentile (s : List Rat) (hs : s.Pairwise (· < ·)) (hn : 0 < s.length) (q : Rat) (h0 : 0 ≤ q) (h1 : q ≤ 1) :
    ∃ cut, percentile s q = some cut ∧
      ((s.filter fun x => decide (x ≤ cut)).length : Int) = ((((s.length : Int) - 1 : Int) : Rat) * q).floor + 1 :=
  Quant.count_le_percentile s hs hn q h0 h1

/-- hence (`p·n` vs. the class size between two consecutive quantile positions `q ≤ q'`, `p = q' - q`): the size of the
class differs from `p·n` by less than 2; for the first class (below the first cut) and the last class (above the last cut)
by at most 1.  This is what "class proportions match the requested distribution" means for finite `n`. -/
theorem class_size_bounds (n : Nat) (hn : 0 < n) (q q' : Rat) (h0 : 0 ≤ q) (hqq : q ≤ q') (h1 : q' ≤ 1) :
    let below (x : Rat) : Int := ((((n : Int) - 1 : Int) : Rat) * x).floor + 1      -- #{d ≤ cut_x}
    -- first class: `below q` samples for the share `q`
    (((below q : Int) : Rat) - q * n ≤ 1 ∧ -1 < ((below q : Int) : Rat) - q * n) ∧
    -- middle class between q and q'
    ((((below q' - below q : Int) : Rat) - (q' - q) * n < 2) ∧ (-2 < ((below q' - below q : Int) : Rat) - (q' - q) * n)) ∧
    -- last class: `n - below q'` samples for the share `1 - q'`
    (((n - below q' : Int) : Rat) - (1 - q') * n ≤ 1 ∧ -1 ≤ ((n - below q' : Int) : Rat) - (1 - q') * n) :=
  Quant.class_size_bounds n hn q q' h0 hqq h1

/-! ## (4) noise -/

/-- **noise_cat**: per feature at most `n_flip = ⌊p·n⌋` cells change and every value of the noisy feature is one of that
feature's own values (shape kept).  "Input untouched" is numpy aliasing (fancy indexing copies) – observed by the tie. -/
theorem noise_cat (R : Rng σ) (hR : R.WF) (st st' : σ) (Xc Xc' : Mat) (y : List Int) (inds : List Nat) (nflip : Nat)
    (h : noiseCat R st Xc y inds nflip = .ok (Xc', st')) :
    Xc'.length = Xc.length ∧ ∀ (j : Nat) (col col' : List Int), Xc[j]? = some col → Xc'[j]? = some col' →
      col'.length = col.length ∧ countDiff col col' ≤ nflip ∧ ∀ v ∈ col', v ∈ col := by
  obtain ⟨hn, h⟩ := C19.ok_of_guard h
  obtain ⟨_, h⟩ := C19.ok_of_guard h
  obtain rfl : (mapCols (noiseCatCol R y inds nflip) Xc st).1 = Xc' := congrArg Prod.fst (Except.ok.inj h)
  have hall := mapCols_all2 (noiseCatCol R y inds nflip) Xc st
  refine ⟨hall.length_eq.symm, fun j col col' hc hc' => ?_⟩
  obtain ⟨st', rfl⟩ := hall.get hc hc'
  exact noiseCatCol_spec hR y inds nflip (Nat.le_of_not_lt hn) col st'

/-- **noise_missing** (any cell type): per feature exactly `n_missing = ⌊p·n⌋` cells hold the marker (for a marker that is not
a data value), every other cell is unchanged, shape kept. -/
theorem noise_missing {α : Type} [DecidableEq α] (R : Rng σ) (hR : R.WF) (st st' : σ) (Xc Xc' : List (List α)) (n : Nat)
    (marker : α) (nmiss : Nat) (hrect : ∀ col ∈ Xc, col.length = n) (hfree : ∀ col ∈ Xc, marker ∉ col)
    (h : noiseMissing R st Xc n marker nmiss = .ok (Xc', st')) :
    Xc'.length = Xc.length ∧ ∀ (j : Nat) (col col' : List α), Xc[j]? = some col → Xc'[j]? = some col' →
      col'.length = col.length ∧ col'.count marker = nmiss ∧
      ∀ (i : Nat), col'[i]? = some marker ∨ col'[i]? = col[i]? := by
  obtain ⟨hn, h⟩ := C19.ok_of_guard h
  obtain rfl : (mapCols (noiseMissingCol R marker nmiss) Xc st).1 = Xc' := congrArg Prod.fst (Except.ok.inj h)
  have hall := mapCols_all2 (noiseMissingCol R marker nmiss) Xc st
  refine ⟨hall.length_eq.symm, fun j col col' hc hc' => ?_⟩
  obtain ⟨st', rfl⟩ := hall.get hc hc'
  have hmem := List.mem_of_getElem? hc
  exact noiseMissingCol_spec hR marker nmiss col
    (hrect col hmem ▸ Nat.le_of_not_lt fun e => hn ⟨e, fun e => List.ne_nil_of_mem hmem (List.isEmpty_iff.mp e)⟩)
    (hfree col hmem) st'

/-! ## (5) down-sampling -/

/-- **downsample**: given what `resample` promises (`ResampleWF`: `n` rows per class, each a row of that class), the result
has as many labels as rows, exactly `n` rows of every class, and every returned row is a row of the class it is labelled
with – with or without reshuffling. -/
theorem downsample_spec (R : Rng σ) (hR : R.WF) (st st' : σ) (X : Mat) (y : List Int) (n? : Option Nat) (resampled : List Mat)
    (reshuffle : Bool) (Xd : Mat) (yd : List Int) (m : Nat) (hm : minCount y = some m)
    (hwf : ResampleWF X y (n?.getD m) resampled)
    (h : downsample R st y n? resampled reshuffle = .ok ((Xd, yd), st')) :
    n?.getD m ≤ m ∧ Xd.length = yd.length ∧ (∀ l ∈ sortDedup y, yd.count l = n?.getD m) ∧
    ∀ (i : Nat) (row : List Int) (l : Int), Xd[i]? = some row → yd[i]? = some l → row ∈ rowsOf X y l := by
  obtain ⟨z1, z2⟩ := zip_pairs (fun row l => row ∈ rowsOf X y l) (n?.getD m)
    (C19.All2.of_getElem? hwf.1 fun k rs l hr hk => hwf.2 k l rs hk hr)
  obtain ⟨hle, z, hz, rfl, rfl⟩ := downsample_ok hR hm z1 h
  refine ⟨hle, by simp, fun l hl => ?_, fun i row l hi hl => ?_⟩
  · rw [(hz.map (·.2)).count_eq, List.map_snd_zip (Nat.le_of_eq z1.symm), count_flatMap_replicate,
      (sortDedup_nodup y).count, if_pos hl, Nat.one_mul]
  · rw [List.getElem?_map, Option.map_eq_some_iff] at hi hl
    obtain ⟨p, hp, rfl⟩ := hi
    obtain ⟨p', hp', rfl⟩ := hl
    cases hp.symm.trans hp'
    exact z2 p (hz.mem_iff.mp (List.mem_of_getElem? hp))

/-! ## (1) correlation (real inner product space; see `Lemmas/C20Corr.lean` for the model of the code path) -/

/-- **Pearson(source, generated) = r**: in any real inner product space with a non-zero "all ones" vector (centring =
removing the component along it), for every non-constant source `t`, every noise vector whose centred part is not
collinear with the centred source, every `|r| < 1` and every regulariser `ε ≥ 0`, the vector built by the code path of
`generate_correlated` (standardise – centre – project the noise orthogonally to the source – normalise both – add
`cot(arccos r)` times the source direction) has Pearson correlation exactly `r` with the source. -/
theorem correlated_pearson {E : Type} [NormedAddCommGroup E] [InnerProductSpace ℝ E] (one t noise : E) (ε r : ℝ)
    (hone : one ≠ 0) (hε : 0 ≤ ε) (ht : Corr.centre one t ≠ 0)
    (hnoise : Corr.orthPart one ε t noise ≠ 0) (hr1 : -1 < r) (hr2 : r < 1) :
    Corr.pearson one t (Corr.genCorrelated one ε r t noise) = r := by
  have hua := Corr.unit_centre_standardise hone hε ht
  have hu : ‖Corr.unit (Corr.centre one (Corr.standardise one ε t))‖ = 1 := hua ▸ Corr.norm_unit ht
  rw [Corr.genCorrelated, Corr.pearson_unit_add hua.symm hu
    (hua ▸ Corr.inner_unit_right (Corr.inner_one_centre t hone)) (Corr.inner_one_orthPart one t noise ε hone)
    (Corr.inner_unit_orthPart one t noise ε hu) hnoise, Corr.inv_tan_arccos, Corr.cot_arccos r hr1 hr2]

/-! ## non-vacuity -/

example : (duplicates [[1, 2, 3], [4, 5, 6]] [2, 0]).toOption = some ([[1, 2, 3, 3, 1], [4, 5, 6, 6, 4]], ⟨[2, 0], [3, 4]⟩) := by
  decide +kernel
example : (combinationLinear [[1, 2, 3], [4, 5, 6]] [0, 2]).toOption = some ([[1, 2, 3, 4], [4, 5, 6, 10]], ⟨[0, 2], 3⟩) := by
  decide +kernel
example : (runOps 5 [.dup [0, 1], .comb [0, 5], .corr [2]]).2.added = [7, 8, 5, 6] := by decide +kernel
example : ResampleWF [[1], [2], [3]] [0, 1, 0] 1 [[[3]], [[2]]] :=
  have h : C19.All2 (fun l rs => rs.length = 1 ∧ ∀ r ∈ rs, r ∈ rowsOf [[1], [2], [3]] [0, 1, 0] l) [0, 1] [[[3]], [[2]]] :=
    .cons (by decide +kernel) (.cons (by decide +kernel) .nil)
  ⟨by decide +kernel, fun _ _ _ hk hr => h.get hk hr⟩

/-- the correlation hypotheses are met in ℝ³ (ones direction, source and noise along the three axes) -/
example : ∃ (one t noise : EuclideanSpace ℝ (Fin 3)), one ≠ 0 ∧ Corr.centre one t ≠ 0 ∧ Corr.orthPart one 0 t noise ≠ 0 :=
  have hb := (EuclideanSpace.basisFun (Fin 3) ℝ).orthonormal
  ⟨_, _, _, Corr.hypotheses_satisfiable _ _ _ (hb.1 0) (hb.1 1) (hb.1 2) (hb.2 (by decide)) (hb.2 (by decide))
    (hb.2 (by decide)) 0 (le_refl _)⟩

/-- the hypotheses of `count_le_percentile` are met by the tie-free sample `[1, 2, 3, 5]` at the median -/
example : ([1, 2, 3, 5] : List Rat).Pairwise (· < ·) ∧ 0 < ([1, 2, 3, 5] : List Rat).length ∧ (0 : Rat) ≤ 1 / 2 ∧ (1 / 2 : Rat) ≤ 1 := by
  decide +kernel

end C20
