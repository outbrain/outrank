import OutrankModel.Model.C15
import OutrankModel.Lemmas.ListAux
/-!
# C15 – frequency sketches err on one side only
Core Lean only.  Count-min sketch: below the int32 range the matrix after any stream is the table of the weights hashed into
each cell (`run_eq_tbl`); the three properties are read off that table.  Bounded counter: one invariant (`CInv`).
-/
namespace C15
open ListAux
variable {ι : Type}

theorem wrap32_natCast (n : Nat) (h : n < 2147483648) : wrap32 (n : Int) = n := by
  unfold wrap32
  rw [Int.emod_eq_of_lt (Int.add_nonneg (Int.natCast_nonneg n) (by decide))
    (show (n : Int) + 2147483648 < 4294967296 from Int.add_lt_add_right (Int.ofNat_lt.2 h) 2147483648), Int.add_sub_cancel]

theorem addAt_eq_modify (l : List Int) (j : Nat) (δ : Int) : addAt l j δ = l.modify j fun c => wrap32 (c + δ) := by
  induction l generalizing j with
  | nil => simp [addAt]
  | cons c cs ih => cases j <;> simp [addAt, ih]

def tbl (d w : Nat) (g : Nat → Nat → Int) : List (List Int) := (List.range d).map fun i => (List.range w).map (g i)

theorem zeros_eq_tbl (d w : Nat) : zeros d w = tbl d w fun _ _ => 0 := by
  simp [zeros, tbl, List.map_const']

theorem cellAt_tbl {d w : Nat} (g : Nat → Nat → Int) {i j : Nat} (hi : i < d) (hj : j < w) :
    cellAt (tbl d w g) i j = some (g i j) := by
  simp [cellAt, tbl, hi, hj]

theorem modify_map_range {β : Type} (f : Nat → β) (w k : Nat) (h : β → β) :
    ((List.range w).map f).modify k h = (List.range w).map fun j => if k = j then h (f j) else f j := by
  refine List.ext_getElem (by simp) fun j h₁ _ => ?_
  simp [List.getElem_modify]

theorem add_tbl (loc : ι → Nat → Nat) (d w : Nat) (g : Nat → Nat → Int) (x : ι) (δ : Nat) :
    add loc (tbl d w g) x δ = tbl d w fun i j => if loc x i = j then wrap32 (g i j + δ) else g i j := by
  refine List.ext_getElem (by simp [add, tbl]) fun i h₁ _ => ?_
  simp [add, tbl, addAt_eq_modify, modify_map_range]

/-! ### weights: `trueWeight`, `weightAt` and `total` add up the same stream under ever weaker conditions -/

theorem sum_ite_mono (ops : List (ι × Nat)) (p q : ι × Nat → Prop) [DecidablePred p] [DecidablePred q]
    (h : ∀ op, p op → q op) :
    (ops.map fun op => if p op then op.2 else 0).sum ≤ (ops.map fun op => if q op then op.2 else 0).sum := by
  induction ops with
  | nil => simp
  | cons op ops ih =>
    simp only [List.map_cons, List.sum_cons]
    by_cases hp : p op
    · rw [if_pos hp, if_pos (h op hp)]; exact Nat.add_le_add_left ih _
    · rw [if_neg hp, Nat.zero_add]; exact Nat.le_trans ih (Nat.le_add_left _ _)

theorem weightAt_le_total (loc : ι → Nat → Nat) (ops : List (ι × Nat)) (i j : Nat) :
    weightAt loc ops i j ≤ total ops := by
  simpa [total, weightAt] using sum_ite_mono ops (fun op => loc op.1 i = j) (fun _ => True) fun _ _ => trivial

theorem trueWeight_le_weightAt [DecidableEq ι] (loc : ι → Nat → Nat) (ops : List (ι × Nat)) (x : ι) (i : Nat) :
    trueWeight ops x ≤ weightAt loc ops i (loc x i) :=
  sum_ite_mono ops (fun op => op.1 = x) (fun op => loc op.1 i = loc x i) fun _ e => e ▸ rfl

theorem weightAt_concat (loc : ι → Nat → Nat) (ops : List (ι × Nat)) (x : ι) (δ i j : Nat) :
    weightAt loc (ops ++ [(x, δ)]) i j = weightAt loc ops i j + if loc x i = j then δ else 0 := by
  simp [weightAt]

theorem total_concat (ops : List (ι × Nat)) (op : ι × Nat) : total (ops ++ [op]) = total ops + op.2 := by
  simp [total]

/-- each update contributes to exactly one column of a row, so the columns' weights sum to the total -/
theorem sum_weightAt (loc : ι → Nat → Nat) (w : Nat) (ops : List (ι × Nat)) (i : Nat) (hloc : ∀ x, loc x i < w) :
    ((List.range w).map fun j => weightAt loc ops i j).sum = total ops := by
  induction ops with
  | nil => simp [weightAt, total, List.map_const', List.sum_replicate_nat]
  | cons op ops ih =>
    have : ∀ j, weightAt loc (op :: ops) i j = (if loc op.1 i = j then op.2 else 0) + weightAt loc ops i j :=
      fun j => by simp [weightAt]
    simp only [this, sum_map_add, ih, sum_map_ite_eq, List.count_range, hloc, if_true]
    simp [total]

/-- No cell ever wraps, since each is bounded by the total, which stays below 2^31. -/
theorem run_eq_tbl (loc : ι → Nat → Nat) (d w : Nat) (ops : List (ι × Nat)) (htot : total ops < 2147483648) :
    run loc (zeros d w) ops = tbl d w fun i j => (weightAt loc ops i j : Int) := by
  refine foldl_hist (P := fun hist M => total hist < 2147483648 → M = tbl d w fun i j => (weightAt loc hist i j : Int))
    (fun _ => zeros_eq_tbl d w) (fun hist M op h htot => ?_) ops htot
  rw [total_concat] at htot
  rw [h (Nat.lt_of_le_of_lt (Nat.le_add_right _ _) htot), add_tbl]
  congr 1
  funext i j
  have := weightAt_le_total loc hist i j
  rw [weightAt_concat]
  split
  · rw [← Int.natCast_add, wrap32_natCast _ (Nat.lt_of_le_of_lt (Nat.add_le_add_right this _) htot)]
  · rw [Nat.add_zero]

/-- C15-0 (exact content): after any stream, every cell holds exactly the weight hashed into it. -/
theorem cell_eq (loc : ι → Nat → Nat) (d w : Nat) (ops : List (ι × Nat)) (htot : total ops < 2147483648)
    (i j : Nat) (hi : i < d) (hj : j < w) :
    cellAt (run loc (zeros d w) ops) i j = some (weightAt loc ops i j : Int) := by
  rw [run_eq_tbl loc d w ops htot, cellAt_tbl _ hi hj]

theorem sum_map_natCast (l : List Nat) : (l.map Nat.cast).sum = (l.sum : Int) := by
  induction l with
  | nil => rfl
  | cons a l ih => simp [ih]

/-- C15-1: every sketch row sums to the total weight added. -/
theorem row_sum_eq_total (loc : ι → Nat → Nat) (d w : Nat) (ops : List (ι × Nat)) (htot : total ops < 2147483648)
    (hloc : ∀ x i, loc x i < w) (i : Nat) (hi : i < d) :
    ∃ row, (run loc (zeros d w) ops)[i]? = some row ∧ row.sum = (total ops : Int) := by
  refine ⟨((List.range w).map fun j => weightAt loc ops i j).map Nat.cast, ?_, ?_⟩
  · simp [run_eq_tbl loc d w ops htot, tbl, hi]
  · rw [sum_map_natCast, sum_weightAt loc w ops i fun x => hloc x i]

theorem query_tbl (loc : ι → Nat → Nat) {d w : Nat} (g : Nat → Nat → Int) (x : ι) (hloc : ∀ i, loc x i < w) :
    query loc (tbl d w g) x = ((List.range d).map fun i => g i (loc x i)).min? := by
  unfold query
  rw [show (tbl d w g).length = d by simp [tbl],
    filterMap_congr fun i hi => cellAt_tbl g (List.mem_range.1 hi) (hloc i), List.filterMap_eq_map']

/-- C15-2: a count-min estimate never falls below the true accumulated weight of the item and never
exceeds the total weight added (any depth ≥ 1, any width, ANY hash). -/
theorem query_bounds [DecidableEq ι] (loc : ι → Nat → Nat) (d w : Nat) (ops : List (ι × Nat))
    (htot : total ops < 2147483648) (hloc : ∀ x i, loc x i < w) (hd : 0 < d) (x : ι) :
    ∃ q, query loc (run loc (zeros d w) ops) x = some q ∧ (trueWeight ops x : Int) ≤ q ∧ q ≤ (total ops : Int) := by
  rw [run_eq_tbl loc d w ops htot, query_tbl loc _ x (hloc x)]
  cases h : ((List.range d).map fun i => (weightAt loc ops i (loc x i) : Int)).min? with
  | none => simp [List.min?_eq_none_iff] at h; omega
  | some q =>
    -- the minimum is the cell of some row `i`, and every such cell lies between the item's weight and the total
    obtain ⟨i, _, rfl⟩ := List.mem_map.1 (List.min?_mem h)
    exact ⟨_, rfl, by exact_mod_cast trueWeight_le_weightAt loc ops x i, by exact_mod_cast weightAt_le_total loc ops i _⟩

variable {α : Type} [DecidableEq α]

/-- The bounded counter after the stream `hist`.  `exact` needs its hypothesis: once `bound` keys exist the counter stops counting
altogether, also for the keys it tracks. -/
structure CInv (bound : Nat) (hist : List α) (c : Ctr α) : Prop where
  nodup : c.keys.Nodup
  le_bound : c.keys.length ≤ bound
  mem_keys : ∀ k, k ∈ c.keys ↔ 0 < c.cnt k
  cnt_le : ∀ k, c.cnt k ≤ hist.count k
  exact : c.keys.length < bound → ∀ k, c.cnt k = hist.count k

theorem CInv.add {bound : Nat} {hist : List α} {c : Ctr α} (h : CInv bound hist c) (v : α) :
    CInv bound (hist ++ [v]) (c.add bound v) := by
  unfold Ctr.add
  split
  · next hb =>
    refine ⟨nodup_insertLast h.nodup v, Nat.le_trans (length_insertLast_le _ v) hb, mem_insertLast_iff_pos h.mem_keys v,
      fun k => ?_, fun _ k => ?_⟩
    · have := h.cnt_le k
      dsimp only
      rw [count_concat]
      split
      · exact Nat.succ_le_succ this
      · exact this
    · dsimp only
      rw [count_concat, h.exact hb k]
  · next hb =>
    exact ⟨h.nodup, h.le_bound, h.mem_keys, fun k => Nat.le_trans (h.cnt_le k) ((List.sublist_append_left _ _).count_le k),
      fun hlt => absurd hlt hb⟩

theorem cinv_run (bound : Nat) (vs : List α) : CInv bound vs ((Ctr.empty : Ctr α).run bound vs) :=
  foldl_hist (P := CInv bound) ⟨List.nodup_nil, Nat.zero_le _, by simp [Ctr.empty], by simp [Ctr.empty], by simp [Ctr.empty]⟩
    (fun _ _ v h => h.add v) vs

theorem CInv.mem_hist {bound : Nat} {hist : List α} {c : Ctr α} (h : CInv bound hist c) {k : α} (hk : k ∈ c.keys) :
    k ∈ hist :=
  List.count_pos_iff.1 (Nat.lt_of_lt_of_le ((h.mem_keys k).1 hk) (h.cnt_le k))

/-- C15-3a: the bounded counter never over-counts. -/
theorem never_overcounts (bound : Nat) (vs : List α) (k : α) : ((Ctr.empty : Ctr α).run bound vs).cnt k ≤ vs.count k :=
  (cinv_run bound vs).cnt_le k

/-- C15-3b: it never tracks more than `bound` distinct values. -/
theorem keys_le_bound (bound : Nat) (vs : List α) : ((Ctr.empty : Ctr α).run bound vs).keys.length ≤ bound :=
  (cinv_run bound vs).le_bound

/-- C15-3c: the counter is exact while fewer than `bound` distinct values have been seen. -/
theorem exact_below_bound (bound : Nat) (vs : List α) (h : vs.eraseDups.length < bound) (k : α) :
    ((Ctr.empty : Ctr α).run bound vs).cnt k = vs.count k := by
  have H := cinv_run bound vs
  -- the keys are distinct values of `vs`, so there is still room
  exact H.exact (Nat.lt_of_le_of_lt (length_le_eraseDups H.nodup fun _ => H.mem_hist) h) k

example : total [((0 : Nat), 3), (1, 0), (0, 2)] < 2147483648 := by decide
example : query (fun (x : Nat) i => (x + i) % 2) (run (fun (x : Nat) i => (x + i) % 2) (zeros 2 2) [(0, 3), (1, 1), (0, 2)]) 1
    = some 1 := by decide +kernel
example : (((Ctr.empty : Ctr Nat).run 2 [5, 5, 7, 5, 9, 9]).cnt 5, ((Ctr.empty : Ctr Nat).run 2 [5, 5, 7, 5, 9, 9]).cnt 9) = (2, 0) := by decide +kernel

end C15
