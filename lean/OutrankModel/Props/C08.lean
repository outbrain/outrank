import OutrankModel.Lemmas.StreamLoop
import OutrankModel.Lemmas.StreamAgg
/-!
# C08 – streaming equals reference batch semantics with median aggregation

Statements about `Stream.run` / `aggregate` / `diskTrace` / `finalTable` (Model/Stream.lean), the definitions the driver
executes.  Core Lean, no Mathlib.
-/
namespace C08
open Stream
-- `hs : 1 ≤ c.sub` marks where model and code agree (`line_counter % 0` raises in Python; the model selects nothing); no proof
-- uses it, from `stream_spec` on
set_option linter.unusedVariables false
variable {α κ σ : Type}

theorem chunks_in_order (B : Nat) (v : List α) : (fullChunks B v).flatten ++ remainder B v = v := by
  have key : ∀ n, ((List.range n).map fun k => (v.drop (k * B)).take B).flatten = v.take (n * B) := by
    intro n
    induction n with
    | zero => simp
    | succ n ih =>
      rw [List.range_succ, List.map_append, List.flatten_append, ih, List.map_singleton, List.flatten_singleton,
        Nat.add_one_mul, List.take_add]
  unfold fullChunks remainder
  rw [key, List.take_append_drop]

theorem chunk_sizes (B : Nat) (hB : 1 ≤ B) (v : List α) :
    (∀ b ∈ fullChunks B v, b.length = B) ∧ (remainder B v).length < B := by
  constructor
  · intro b hb
    simp only [fullChunks, List.mem_map, List.mem_range] at hb
    obtain ⟨k, hk, rfl⟩ := hb
    have := Nat.mul_le_of_le_div B (k + 1) v.length hk
    rw [Nat.add_one_mul] at this
    rw [List.length_take, List.length_drop]
    exact Nat.min_eq_left (Nat.le_sub_of_add_le' this)
  · rw [remainder, List.length_drop, ← Nat.mod_eq_sub_div_mul]
    exact Nat.mod_lt _ hB

/-- C08-1: for ALL line lists (malformed rows anywhere), every batch size ≥ 1 and subsampling factor ≥ 1 the loop
hands over exactly the batches of the chunking specification: selected = lines whose 1-based position is a multiple
of `sub`; valid = selected lines with the header's field count, in file order; successive full chunks of `batch`
valid rows; the remainder iff it has more than 1024 rows; invalid = selected − valid. -/
theorem stream_spec (c : Cfg) (hb : 1 ≤ c.batch) (hs : 1 ≤ c.sub) (lines : List (Bool × α)) :
    run c lines = chunkSpec c lines := by
  have h := inv_foldl c hb lines
  have hv := chunk_sizes c.batch hb (validOf (selected c.sub lines))
  -- the loop's state and `fullChunks` / `remainder` split the same list into full blocks and a short rest
  obtain ⟨hc, hr⟩ := blocks_unique h.done hv.1 h.buf hv.2 (h.rows.trans (chunks_in_order _ _).symm)
  rw [run, finish, hc, hr, h.lc, h.invalid, length_invalid, List.take_of_length_le (Nat.le_of_lt hv.2), chunkSpec]
  split <;> simp [*]

/-- the tail batch is used exactly when more than 1024 valid rows are left over, and the invalid counter is the number
of selected lines whose field count differs from the header's -/
theorem tail_and_invalid (c : Cfg) (hb : 1 ≤ c.batch) (hs : 1 ≤ c.sub) (lines : List (Bool × α)) :
    ((run c lines).tail = true ↔ 1024 < (remainder c.batch (validOf (selected c.sub lines))).length) ∧
    (run c lines).invalid = ((selected c.sub lines).filter (fun l => !l.1)).length := by
  rw [stream_spec c hb hs]
  exact ⟨by simp [chunkSpec], (length_invalid _).symm⟩

/-- C08-2: the aggregated table has a row for exactly the ordered pairs that occur, and its score is the median of the
scores of all rows of that pair (no pair is listed twice: `aggregate_keys_sorted`). -/
theorem aggregate_is_median [DecidableEq κ] (kle : κ → κ → Bool) (o : Ops σ) (rows : List (κ × σ)) (k : κ) (m : σ) :
    (k, m) ∈ aggregate kle o rows ↔ (∃ s, (k, s) ∈ rows) ∧ m = median o (scoresOf rows k) :=
  mem_groupBy kle (median o) rows k m

/-- the keys of the table are the distinct pairs, in sorted (`groupby`) order -/
theorem aggregate_keys_sorted [DecidableEq κ] (kle : κ → κ → Bool) (hk : LinOrd kle) (o : Ops σ)
    (rows : List (κ × σ)) :
    ((aggregate kle o rows).map (·.1)).Nodup ∧
    ((aggregate kle o rows).map (·.1)).Pairwise (fun a b => kle a b = true) := by
  rw [aggregate_eq, groupBy_keys]
  exact ⟨keys_nodup kle rows, keys_sorted kle hk rows⟩

/-- the median is the middle element of ANY ascending rearrangement `s` of the scores (mean of the two middle ones
for an even count) -/
theorem median_middle (o : Ops σ) (ho : LinOrd o.le) (xs s : List σ)
    (hs : s.Pairwise (fun a b => o.le a b = true)) (hp : s.Perm xs) :
    median o xs = if s.length % 2 = 1 then s.getD (s.length / 2) o.zero
                  else o.mid (s.getD (s.length / 2 - 1) o.zero) (s.getD (s.length / 2) o.zero) := by
  rw [← isort_eq_of_sorted ho hs hp]
  rfl

/-! ## per-batch scores that are NaN

A heuristic can be undefined on a batch (Pearson on a column that is constant there): the recorded score is NaN, `none` in
the model.  `aggregateSkip` is what `groupby(...).median()` does with them. -/

/-- C08-2n: every ordered pair that occurs has exactly one aggregated row; its score is the median of the pair's DEFINED
per-batch scores, and undefined only if none of them is defined. -/
theorem aggregateSkip_is_median_of_defined [DecidableEq κ] (kle : κ → κ → Bool) (o : Ops σ)
    (rows : List (κ × Option σ)) (k : κ) (m : Option σ) :
    (k, m) ∈ aggregateSkip kle o rows ↔
      (∃ s, (k, s) ∈ rows) ∧
      m = (if (definedScores rows k).isEmpty then none else some (median o (definedScores rows k))) :=
  mem_groupBy kle (skipMedian o) rows k m

/-- … and it is a conservative extension: when every score is defined it is the aggregation of C08-2, row for row. -/
theorem aggregateSkip_without_nan [DecidableEq κ] (kle : κ → κ → Bool) (o : Ops σ) (rows : List (κ × σ)) :
    aggregateSkip kle o (rows.map fun r => (r.1, some r.2)) = (aggregate kle o rows).map fun r => (r.1, some r.2) := by
  rw [aggregateSkip_eq, aggregate_eq, groupBy, groupBy, keys_map_snd, List.map_map]
  refine List.map_congr_left fun k hk => ?_
  have hne : scoresOf rows k ≠ [] := scoresOf_ne_nil.mpr ((mem_keys kle rows k).mp hk)
  simp [skipMedian, scoresOf_map_snd, List.filterMap_map, hne]

/-- the order in which the triplets were recorded (batch order, worker completion order) does not matter -/
theorem aggregateSkip_perm [DecidableEq κ] (kle : κ → κ → Bool) (o : Ops σ) (hk : LinOrd kle) (ho : LinOrd o.le)
    {rows rows' : List (κ × Option σ)} (hp : rows.Perm rows') :
    aggregateSkip kle o rows = aggregateSkip kle o rows' :=
  groupBy_perm kle hk _ (skipMedian_perm o ho) hp

/-- non-vacuity: one pair with scores 3, NaN, 5 (median of the defined ones: 4) and one pair with NaN only -/
example : aggregateSkip (fun a b : Nat => decide (a ≤ b)) (⟨fun a b => decide (a ≤ b), fun a b => (a + b) / 2, 0⟩ : Ops Nat)
    [(1, some 3), (2, none), (1, none), (1, some 5)] = [(1, some 4), (2, none)] := by decide +kernel

/-- C08-3: for a non-`Constant` heuristic, after every processed batch (tail batch included) the checkpoint on disk is
the aggregation of the rows of the batches processed so far (nothing is written while there are no rows). -/
theorem checkpoint_prefix {ρ τ : Type} (agg : List ρ → τ) (tail : Bool) (batchRows : List (List ρ)) :
    diskTrace agg false tail batchRows =
      (List.range batchRows.length).map fun j =>
        if ((batchRows.take (j + 1)).flatten).isEmpty then none else some (agg ((batchRows.take (j + 1)).flatten)) := by
  rw [diskTrace, diskGo_eq (k := 0) fun _ => Nat.le_refl batchRows.length]
  refine List.map_congr_left fun j _ => ?_
  cases h : (batchRows.take (j + 1)).flatten.isEmpty <;> simp [prefixRows, h]

/-- with the `Constant` heuristic the loop writes no checkpoint; only the tail batch (if any) does -/
theorem checkpoint_const {ρ τ : Type} (agg : List ρ → τ) (tail : Bool) (batchRows : List (List ρ)) :
    diskTrace agg true tail batchRows =
      (List.range batchRows.length).map fun j =>
        if tail = true ∧ j + 1 = batchRows.length ∧ batchRows.flatten.isEmpty = false
        then some (agg batchRows.flatten) else none := by
  rw [diskTrace, diskGo_eq (k := 0) fun _ => Nat.le_refl batchRows.length]
  refine List.map_congr_left fun j _ => ?_
  by_cases hlast : j + 1 = batchRows.length
  · simp [prefixRows, hlast, List.take_length]
  · simp [hlast]

/-- C08-4: `pairwise_ranks.tsv` holds the rows of the aggregate, in ascending score order. -/
theorem final_sorted [DecidableEq κ] (o : Ops σ) (ho : LinOrd o.le) (t : List (κ × σ)) :
    (finalTable o t).Perm t ∧ (finalTable o t).Pairwise (fun a b => o.le a.2 b.2 = true) :=
  ⟨finalTable_perm o t, finalTable_sorted o ho t⟩

/-- the decidable check the driver runs on the IMPLEMENTATION's table says exactly that … -/
theorem finalOkB_iff [DecidableEq κ] [DecidableEq σ] (o : Ops σ) (ho : LinOrd o.le) (a t : List (κ × σ)) :
    finalOkB o a t = true ↔ a.Perm t ∧ t.Pairwise (fun x y => o.le x.2 y.2 = true) := by
  rw [finalOkB, Bool.and_eq_true, List.isPerm_iff,
    adjacent_iff_pairwise (R := fun x y : κ × σ => o.le x.2 y.2) fun a b c => ho.trans a.2 b.2 c.2]

/-- … and accepts the model's table, for all inputs -/
theorem finalOkB_model [DecidableEq κ] [DecidableEq σ] (o : Ops σ) (ho : LinOrd o.le) (a : List (κ × σ)) :
    finalOkB o a (finalTable o a) = true :=
  (finalOkB_iff o ho a _).mpr ⟨(finalTable_perm o a).symm, finalTable_sorted o ho a⟩

/-- C08 (composition): grouped table, checkpoints and invalid count of the streaming run are those of the reference
semantics "score the chunks of the selected valid rows, aggregate by median". -/
theorem rank_spec [DecidableEq κ] (c : Cfg) (hb : 1 ≤ c.batch) (hs : 1 ≤ c.sub) (kle : κ → κ → Bool) (o : Ops σ)
    (isConst : Bool) (score : List α → List (κ × σ)) (lines : List (Bool × α)) :
    rank c kle o isConst score lines =
      (aggregate kle o (((chunkSpec c lines).batches.map score).flatten),
       diskTrace (aggregate kle o) isConst (chunkSpec c lines).tail ((chunkSpec c lines).batches.map score),
       (chunkSpec c lines).invalid) := by
  unfold rank
  rw [stream_spec c hb hs]

/-! the hypotheses are satisfiable: the orders the driver runs are linear orders -/

theorem ratOps_linOrd : LinOrd ratOps.le := LinOrd.of_le id (fun _ _ h => h) (by simp [ratOps])

theorem natOps_linOrd : LinOrd natOps.le := LinOrd.of_le id (fun _ _ h => h) (by simp [natOps])

theorem pairLe_linOrd : LinOrd pairLe := LinOrd.lex id (fun _ _ h => h) natOps_linOrd (by simp [pairLe, natOps])

-- 7 lines, sub = 2 selects lines 2,4,6; line 4 is malformed; batch = 1: two batches, no tail, one invalid line
example : run ⟨1, 2⟩ [(true, 1), (true, 2), (true, 3), (false, 4), (true, 5), (true, 6), (true, 7)]
    = ⟨[[2], [6]], false, 1, 7⟩ := by decide +kernel
-- a malformed line arriving while the buffer is non-empty neither triggers nor breaks a batch
example : run ⟨2, 1⟩ [(true, 1), (false, 2), (true, 3), (true, 4)] = ⟨[[1, 3]], false, 1, 4⟩ := by decide +kernel
-- medians: odd count, even count (mean of the two middle ones), one table row per ordered pair, sorted keys
example : aggregate pairLe natOps [((1, 0), 8), ((0, 1), 5), ((1, 0), 2), ((0, 1), 1), ((1, 0), 4), ((0, 1), 9), ((0, 1), 3)]
    = [((0, 1), 4), ((1, 0), 4)] := by decide +kernel
-- checkpoints after each of three batches
example : diskTrace (aggregate pairLe natOps) false false [[((0, 1), 5)], [((0, 1), 1)], [((0, 1), 9)]]
    = [some [((0, 1), 5)], some [((0, 1), 3)], some [((0, 1), 5)]] := by decide +kernel
example : finalTable natOps [((0, 1), 4), ((1, 0), 2), ((1, 1), 3)] = [((1, 0), 2), ((1, 1), 3), ((0, 1), 4)] := by decide +kernel

end C08

namespace Stream

/-- what `fullChunks` / `remainder` do on `l ++ v` for a full block `l` (both sides split `l ++ v` into full blocks and a short rest) -/
theorem chunks_append {α : Type} (B : Nat) (hB : 0 < B) (l v : List α) (hl : l.length = B) :
    fullChunks B (l ++ v) = l :: fullChunks B v ∧ remainder B (l ++ v) = remainder B v := by
  have h := C08.chunk_sizes B hB (l ++ v)
  have h' := C08.chunk_sizes B hB v
  refine blocks_unique h.1 (List.forall_mem_cons.mpr ⟨hl, h'.1⟩) h.2 h'.2 ?_
  rw [C08.chunks_in_order, List.flatten_cons, List.append_assoc, C08.chunks_in_order]

end Stream
