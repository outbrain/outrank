import OutrankModel.Model.MI
import OutrankModel.Lemmas.ListAux
/-!
`vals a` enumerates the members of `a` in ascending order without repetition; counting through a map that is injective
on the list (`InjOnList`: the relabelling of codes in C02 and C10).  Core Lean only.
-/
namespace MI

def InjOnList (f : Nat → Nat) (l : List Nat) : Prop := ∀ a ∈ l, ∀ b ∈ l, f a = f b → a = b

theorem InjOnList.mono {f : Nat → Nat} {l l' : List Nat} (h : InjOnList f l) (hs : ∀ a ∈ l', a ∈ l) : InjOnList f l' :=
  fun a ha b hb => h a (hs a ha) b (hs b hb)

theorem InjOnList.count_map {f : Nat → Nat} {l : List Nat} (h : InjOnList f l) {p : Nat} (hp : p ∈ l) :
    (l.map f).count (f p) = l.count p :=
  ListAux.count_map_injOn f l p fun q hq => h q hq p hp

theorem mem_dedupAdj (l : List Nat) (v : Nat) : v ∈ dedupAdj l ↔ v ∈ l := by
  induction l using dedupAdj.induct with
  | case1 => simp [dedupAdj]
  | case2 a => simp [dedupAdj]
  | case3 a t ih =>
    simp only [dedupAdj, if_true, ih]
    simp
  | case4 a b t hab ih =>
    simp only [dedupAdj, hab, if_false, List.mem_cons, ih]

theorem dedupAdj_sorted (l : List Nat) (hs : l.Pairwise (· ≤ ·)) : (dedupAdj l).Pairwise (· < ·) := by
  induction l using dedupAdj.induct with
  | case1 => simp [dedupAdj]
  | case2 a => simp [dedupAdj]
  | case3 a t ih =>
    simp only [dedupAdj, if_true]
    exact ih (List.Pairwise.of_cons hs)
  | case4 a b t hab ih =>
    simp only [dedupAdj, hab, if_false]
    rw [List.pairwise_cons] at hs ⊢
    refine ⟨fun v hv => ?_, ih hs.2⟩
    rw [mem_dedupAdj] at hv
    have hab' : a ≤ b := hs.1 b (by simp)
    have hbv : b ≤ v := by
      rcases List.mem_cons.mp hv with rfl | hv'
      · exact Nat.le_refl _
      · exact (List.pairwise_cons.mp hs.2).1 v hv'
    omega

theorem mem_vals {a : List Nat} {v : Nat} : v ∈ vals a ↔ v ∈ a := by
  unfold vals; rw [mem_dedupAdj, List.mem_mergeSort]

theorem vals_sorted (a : List Nat) : (vals a).Pairwise (· < ·) := by
  unfold vals
  apply dedupAdj_sorted
  have := List.pairwise_mergeSort (le := fun x y : Nat => decide (x ≤ y))
    (by intro a b c; simp only [decide_eq_true_eq]; exact Nat.le_trans)
    (by intro a b; simp only [Bool.or_eq_true, decide_eq_true_eq]; exact Nat.le_total a b) a
  exact this.imp (by intro a b h; simpa using h)

theorem vals_nodup (a : List Nat) : (vals a).Nodup :=
  List.nodup_iff_pairwise_ne.2 ((vals_sorted a).imp Nat.ne_of_lt)

end MI
