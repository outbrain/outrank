import Mathlib.Algebra.BigOperators.Group.Finset.Piecewise
import Mathlib.Data.List.Sigma
import Mathlib.Data.List.Zip
import Mathlib.Data.Nat.ModEq
import OutrankModel.Lemmas.MIVals
/-!
The list forms of the MI model: joint counts `jc` (which `stratum` and `spoofed` count), their marginal sums, and the displaced
copy `ystar`.  No arithmetic; finsets only as index sets of the marginal sums.
-/
open Finset

namespace MI

theorem count_stratum (Y X : List Nat) (x c : Nat) : (stratum Y X x).count c = jc Y X x c := by
  unfold jc stratum
  rw [List.count_filterMap, List.count_eq_countP]
  congr 1
  funext p
  obtain ⟨a, b⟩ := p
  by_cases h : b = x
  · subst h; simp
  · simp [h]

theorem jc_eq_zero_of_not_mem_left {Y X : List Nat} {x c : Nat} (hc : c ∉ Y) : jc Y X x c = 0 := by
  unfold jc
  exact List.count_eq_zero.mpr (fun hm => hc (List.of_mem_zip hm).1)

theorem jc_eq_zero_of_not_mem_right {Y X : List Nat} {x c : Nat} (hx : x ∉ X) : jc Y X x c = 0 := by
  unfold jc
  exact List.count_eq_zero.mpr (fun hm => hx (List.of_mem_zip hm).2)

theorem jc_symm (Y X : List Nat) (x c : Nat) : jc Y X x c = jc X Y c x := by
  unfold jc
  rw [← List.zip_swap Y X]
  exact (List.count_map_of_injective _ Prod.swap Prod.swap_injective (c, x)).symm

theorem jc_le_count (Y X : List Nat) (h : Y.length = X.length) (x c : Nat) : jc Y X x c ≤ X.count x := by
  have := List.count_le_count_map (l := List.zip Y X) (f := Prod.snd) (x := (c, x))
  rwa [List.map_snd_zip (le_of_eq h.symm)] at this

theorem jc_le_count_left (Y X : List Nat) (h : Y.length = X.length) (x c : Nat) : jc Y X x c ≤ Y.count c := by
  rw [jc_symm]; exact jc_le_count X Y h.symm c x

theorem jc_le_one_of_nodup (Y X : List Nat) (h : Y.length = X.length) (hd : Y.Nodup) (x c : Nat) :
    jc Y X x c ≤ 1 :=
  le_trans (jc_le_count_left Y X h x c) (List.nodup_iff_count_le_one.mp hd c)

theorem jc_self (X : List Nat) (x c : Nat) : jc X X x c = if c = x then X.count x else 0 := by
  unfold jc
  rw [List.zip_eq_zipWith, List.zipWith_self]
  split
  · next h => rw [h]; exact ListAux.count_map_injOn (fun a => (a, a)) X x fun q _ e => (Prod.mk.inj e).1
  · next h =>
    refine List.count_eq_zero.2 fun hm => ?_
    obtain ⟨a, _, e⟩ := List.mem_map.1 hm
    exact h ((Prod.mk.inj e).1.symm.trans (Prod.mk.inj e).2)

theorem jc_map (f g : Nat → Nat) (Y X : List Nat) (hf : InjOnList f Y) (hg : InjOnList g X) {x c : Nat}
    (hx : x ∈ X) (hc : c ∈ Y) : jc (Y.map f) (X.map g) (g x) (f c) = jc Y X x c := by
  unfold jc
  rw [List.zip_map]
  refine ListAux.count_map_injOn (Prod.map f g) _ (c, x) fun q hq e => ?_
  have e' := Prod.mk.inj e
  exact Prod.ext (hf _ (List.of_mem_zip hq).1 c hc e'.1) (hg _ (List.of_mem_zip hq).2 x hx e'.2)

theorem sum_count_fst {α β : Type} [DecidableEq α] [DecidableEq β]
    (Z : List (α × β)) (x : β) (S : Finset α) (hS : ∀ p ∈ Z, p.1 ∈ S) :
    ∑ y ∈ S, Z.count (y, x) = Z.countP (fun p => p.2 = x) := by
  induction Z with
  | nil => simp
  | cons p Z ih =>
    rw [List.countP_cons, ← ih fun q hq => hS q (List.mem_cons_of_mem _ hq)]
    simp only [List.count_cons, Finset.sum_add_distrib]
    congr 1
    obtain ⟨a, b⟩ := p
    simp only [beq_iff_eq, Prod.mk.injEq, decide_eq_true_eq]
    by_cases hb : b = x
    · simp only [hb, and_true, Finset.sum_ite_eq, hS (a, b) List.mem_cons_self, if_true]
    · simp only [hb, and_false, if_false, Finset.sum_const_zero]

theorem nx_eq (Y X : List Nat) (h : Y.length = X.length) (x : Nat) :
    ∑ y ∈ Y.toFinset, jc Y X x y = X.count x := by
  unfold jc
  rw [sum_count_fst (List.zip Y X) x _ fun p hp => List.mem_toFinset.mpr (List.of_mem_zip hp).1]
  conv_rhs => rw [← List.map_snd_zip (le_of_eq h.symm), List.count_eq_countP, List.countP_map]
  congr 1

theorem ny_eq (Y X : List Nat) (h : Y.length = X.length) (c : Nat) :
    ∑ x ∈ X.toFinset, jc Y X x c = Y.count c := by
  simp only [jc_symm Y X]
  exact nx_eq X Y h.symm c

@[simp] theorem length_ystar (Y X : List Nat) : (ystar Y X).length = X.length := by
  rw [ystar, List.length_map, List.length_zipIdx]

theorem mem_ystar (Y X : List Nat) (hY : 0 < Y.length) {v : Nat} (hv : v ∈ ystar Y X) : v ∈ Y := by
  unfold ystar at hv
  rw [List.mem_map] at hv
  obtain ⟨p, _, rfl⟩ := hv
  simp only [hY, dif_pos, List.getElem_toArray, List.getElem_mem]

theorem getElem_ystar (Y X : List Nat) (hY : 0 < Y.length) (i : Nat) (hi : i < (ystar Y X).length) :
    (ystar Y X)[i] = Y[(i + X.count (X[i]'(by simpa using hi))) % Y.length]'(Nat.mod_lt _ hY) := by
  simp only [ystar, hY, dif_pos, List.getElem_toArray, List.getElem_map, List.getElem_zipIdx, zero_add]

theorem ystar_map (f g : Nat → Nat) (Y X : List Nat) (hY : 0 < Y.length) (hg : InjOnList g X) :
    ystar (Y.map f) (X.map g) = (ystar Y X).map f := by
  apply List.ext_getElem (by simp)
  intro i h1 h2
  have hi : i < X.length := by simpa using h1
  rw [List.getElem_map, getElem_ystar Y X hY, getElem_ystar (Y.map f) (X.map g) (by simpa using hY)]
  simp only [List.getElem_map, List.length_map, hg.count_map (List.getElem_mem hi)]

theorem zip_zipIdx_map {β : Type} (F : Nat × Nat → β) (X : List Nat) :
    List.zip (X.zipIdx.map F) X = X.zipIdx.map (fun p => (F p, p.1)) := by
  calc List.zip (X.zipIdx.map F) X
      = List.zip (X.zipIdx.map F) (X.zipIdx.map Prod.fst) := by rw [List.zipIdx_map_fst]
    _ = _ := by rw [List.zip_map']

theorem spoofed_eq (Y X : List Nat) (x : Nat) : spoofed Y X x (X.count x) = stratum (ystar Y X) X x := by
  unfold spoofed stratum ystar positions
  rw [zip_zipIdx_map, List.filterMap_map, List.map_filterMap]
  refine List.filterMap_congr fun p _ => ?_
  simp only [Function.comp_apply]
  by_cases h : p.1 = x
  · simp only [h, if_true, Option.map_some]
  · simp only [h, if_false, Option.map_none]

theorem count_spoofed (Y X : List Nat) (x c : Nat) :
    (spoofed Y X x (X.count x)).count c = jc (ystar Y X) X x c := by
  rw [spoofed_eq, count_stratum]

/-- the displacement is a bijection of the rows: a duplicate-free `Y` keeps every (value, target) pair unique -/
theorem zip_ystar_nodup (Y X : List Nat) (h : Y.length = X.length) (hd : Y.Nodup) :
    (List.zip (ystar Y X) X).Nodup := by
  unfold ystar
  rw [zip_zipIdx_map]
  refine List.Nodup.map_on ?_ (List.Nodup.of_map Prod.snd (List.nodup_zipIdx_map_snd X))
  rintro ⟨a, i⟩ hp ⟨b, j⟩ hq heq
  have hi := (List.mem_zipIdx' hp).1
  have hj := (List.mem_zipIdx' hq).1
  simp only [Prod.mk.injEq] at heq
  obtain ⟨h1, rfl⟩ := heq
  have hY : 0 < Y.length := by omega
  simp only [hY, dif_pos, List.getElem_toArray] at h1
  -- equal entries of a duplicate-free `Y` sit at the same shifted position, and the cyclic shift is injective on the rows
  have h2 : i ≡ j [MOD Y.length] := Nat.ModEq.add_right_cancel' _ ((List.Nodup.getElem_inj_iff hd).mp h1)
  rw [h, Nat.ModEq, Nat.mod_eq_of_lt hi, Nat.mod_eq_of_lt hj] at h2
  rw [h2]

theorem jc_ystar_le_one (Y X : List Nat) (h : Y.length = X.length) (hd : Y.Nodup) (x c : Nat) :
    jc (ystar Y X) X x c ≤ 1 :=
  List.nodup_iff_count_le_one.mp (zip_ystar_nodup Y X h hd) (c, x)

theorem sum_vals {M : Type} [AddCommMonoid M] (a : List Nat) (f : Nat → M) :
    ((vals a).map f).sum = ∑ c ∈ a.toFinset, f c := by
  rw [← List.sum_toFinset f (vals_nodup a)]
  congr 1
  ext v
  simp [mem_vals]

end MI
