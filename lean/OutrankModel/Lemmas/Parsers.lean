import OutrankModel.Model.C16
import OutrankModel.Lemmas.ListAux
/-!
Lemmas for C16 (line parsers).  Core Lean only.

`splitOn` / `joinSep` are core's `List.splitOn` / `List.intercalate` (`splitOn_eq`, `joinSep_eq`), so a joined line is cut back into
its fields by core's lemmas; `strip` gives back a string that has no whitespace at its edges (`pyStrip_core`); the csv reader is
followed cell by cell (`Pending`, `run_row`), and its control state alone shows that it cannot fail on a line (`stepC_noNL`,
`stepC_NL`).  A rendered VW line is cut at its bars into parts that `vwPart` reads back (`splitOn_bar`); parser and specification
run the same fold (`hashPairs`), in which the last namespace sent to a column wins (`vwSpec_col`).  The namespace file is the fold
of `nsStep` over its lines (`namespaceMap_joinSep`), and a rendered entry steps as the specification does (`nsStep_line`).
-/
namespace C16

theorem splitOn_eq (d : Char) (l : Str) : splitOn d l = l.splitOn d := by
  induction l with
  | nil => rfl
  | cons c cs ih =>
    rw [splitOn, List.splitOn_cons_eq_if_modifyHead, ih]
    cases h : cs.splitOn d with
    | nil => exact absurd h (List.splitOn_ne_nil d cs)
    | cons f fs => rfl

theorem joinSep_eq (sep : Str) : ∀ l : List Str, joinSep sep l = sep.intercalate l
  | [] => rfl
  | [x] => List.intercalate_singleton.symm
  | x :: y :: r => by rw [joinSep, List.intercalate_cons_cons, joinSep_eq sep (y :: r)]

theorem splitOn_ne_nil (d : Char) (l : Str) : splitOn d l ≠ [] := by
  rw [splitOn_eq]; exact List.splitOn_ne_nil d l

theorem splitOn_nodelim (d : Char) (x : Str) (h : ∀ c ∈ x, c ≠ d) : splitOn d x = [x] := by
  rw [splitOn_eq]; exact List.splitOn_eq_singleton fun hd => h d hd rfl

theorem splitOn_append_delim (d : Char) (x y : Str) (h : ∀ c ∈ x, c ≠ d) :
    splitOn d (x ++ d :: y) = x :: splitOn d y := by
  rw [splitOn_eq, splitOn_eq]; exact List.splitOn_append_cons_self_of_not_mem (fun hd => h d hd rfl) y

theorem splitOn_joinSep (d : Char) (row : List Str) (hne : row ≠ []) (h : ∀ x ∈ row, ∀ c ∈ x, c ≠ d) :
    splitOn d (joinSep [d] row) = row := by
  rw [splitOn_eq, joinSep_eq]; exact List.splitOn_intercalate d (fun x hx hd => h x hx d hd rfl) hne

theorem joinSep_cons (sep x : Str) {r : List Str} (h : r ≠ []) : joinSep sep (x :: r) = x ++ sep ++ joinSep sep r := by
  rw [joinSep_eq, joinSep_eq, List.intercalate_cons_of_ne_nil h]

theorem mem_joinSep {sep : Str} {c : Char} : ∀ {row : List Str}, c ∈ joinSep sep row → c ∈ sep ∨ ∃ x ∈ row, c ∈ x
  | [x], h => Or.inr ⟨x, by simp, h⟩
  | x :: y :: r, h => by
    simp only [joinSep, List.mem_append] at h
    rcases h with (h | h) | h
    · exact Or.inr ⟨x, by simp, h⟩
    · exact Or.inl h
    · exact (mem_joinSep h).imp_right fun ⟨z, hz, hc⟩ => ⟨z, by simp [hz], hc⟩

theorem flatMap_eq_joinSep {α : Type} (f : α → Str) (sep : Str) (l : List α) :
    (l.flatMap fun a => f a ++ sep) = joinSep sep (l.map f ++ [[]]) := by
  induction l with
  | nil => rfl
  | cons a r ih => rw [List.flatMap_cons, ih, List.map_cons, List.cons_append, joinSep_cons _ _ (by simp)]

theorem dropWhile_head (p : Char → Bool) (l : Str) (h : ∀ c, l.head? = some c → p c = false) :
    l.dropWhile p = l := by
  cases l with
  | nil => rfl
  | cons c cs => simp [h c rfl]

theorem rstripP_append_all (p : Char → Bool) (a b : Str) (h : ∀ c ∈ b, p c = true) :
    rstripP p (a ++ b) = rstripP p a := by
  unfold rstripP
  rw [List.reverse_append, List.dropWhile_append_of_pos fun c hc => h c (List.mem_reverse.mp hc)]

theorem rstripP_id (p : Char → Bool) (a : Str) (h : ∀ c, a.getLast? = some c → p c = false) :
    rstripP p a = a := by
  unfold rstripP
  rw [dropWhile_head p _ fun c hc => h c (by simpa using hc), List.reverse_reverse]

theorem edgeOK_of_b {l : Str} (h : edgeOKb l = true) : EdgeOK l := by
  simp only [edgeOKb, Bool.and_eq_true] at h
  constructor
  · intro c hc; rw [hc] at h; simpa using h.1
  · intro c hc; rw [hc] at h; simpa using h.2

theorem pyStrip_core (lead core trail : Str) (hl : ∀ c ∈ lead, isPySpace c = true)
    (ht : ∀ c ∈ trail, isPySpace c = true) (hc : EdgeOK core) : pyStrip (lead ++ core ++ trail) = core := by
  unfold pyStrip
  rw [List.append_assoc, List.dropWhile_append_of_pos hl]
  cases core with
  | nil => rw [← List.append_nil ([] ++ trail), List.nil_append, List.dropWhile_append_of_pos ht]; rfl
  | cons x xs =>
    rw [dropWhile_head _ (x :: xs ++ trail) fun c h => hc.1 c h, rstripP_append_all _ _ _ ht, rstripP_id _ _ hc.2]

theorem isNL_iff {c : Char} : isNL c = true ↔ c = '\n' ∨ c = '\r' := by simp [isNL]

theorem isNL_isPySpace {c : Char} (h : isNL c = true) : isPySpace c = true := by
  rcases isNL_iff.mp h with rfl | rfl <;> decide

theorem run_append (p : P) (a b : Str) : run p (a ++ b) = run (run p a) b := by
  simp [run, List.foldl_append]

theorem run_cons (p : P) (c : Char) (cs : Str) : run p (c :: cs) = run (stepC p c) cs := rfl

theorem run_invariant {I : P → Prop} {Q : Char → Prop} (step : ∀ p c, Q c → I p → I (stepC p c)) :
    ∀ (l : Str) (p : P), (∀ c ∈ l, Q c) → I p → I (run p l)
  | [], _, _, hp => hp
  | c :: cs, p, hl, hp =>
    run_invariant step cs _ (fun c' hc' => hl c' (List.mem_cons_of_mem c hc')) (step p c (hl c List.mem_cons_self) hp)

def clean (f : Str) : Prop := ∀ c ∈ f, c ≠ ',' ∧ c ≠ '"' ∧ isNL c = false

/-- unquoted field under way: stays in `inf`, accumulating -/
theorem run_inf (fs : List Str) (acc f : Str) (hf : clean f) :
    run ⟨.inf, acc, fs⟩ f = ⟨.inf, acc ++ f, fs⟩ := by
  induction f generalizing acc with
  | nil => simp [run]
  | cons c cs ih =>
    have ⟨h1, _, h2⟩ := hf c (by simp)
    have := ih (acc ++ [c]) fun d hd => hf d (by simp [hd])
    simpa [run_cons, stepC, h1, h2] using this

/-- quoted body: stays in `iq`, doubled quotes collapse -/
theorem run_iq (fs : List Str) (acc f : Str) :
    run ⟨.iq, acc, fs⟩ (esc f) = ⟨.iq, acc ++ f, fs⟩ := by
  induction f generalizing acc with
  | nil => simp [run, esc]
  | cons c cs ih =>
    have := ih (acc ++ [c])
    by_cases h : c = '"'
    · subst h
      simpa [esc, run_cons, stepC] using this
    · simpa [esc, run_cons, stepC, h] using this

/-- the reader, started in `s0` (start of a record or of a field, nothing pending), has read the rendered cell `a` and not yet
saved it.  In the first case nothing was read; only there do the two start states differ, and only at the end of the record -/
def Pending (s0 : S) (p : P) (a : Bool × Str) (fs : List Str) : Prop :=
  (p = ⟨s0, [], fs⟩ ∧ a = (false, [])) ∨ p = ⟨.inf, a.2, fs⟩ ∨ p = ⟨.qiq, a.2, fs⟩

theorem pending_comma {s0 : S} {p : P} {a : Bool × Str} {fs : List Str} (hs : s0 = .sr ∨ s0 = .sf) (h : Pending s0 p a fs) :
    stepC p ',' = ⟨.sf, [], fs ++ [a.2]⟩ := by
  rcases h with ⟨rfl, rfl⟩ | rfl | rfl
  · rcases hs with rfl | rfl <;> rfl
  · rfl
  · rfl

theorem run_eat_nl (f : Str) (fs : List Str) (cs : Str) (h : ∀ c ∈ cs, isNL c = true) :
    run ⟨.eat, f, fs⟩ cs = ⟨.eat, f, fs⟩ :=
  run_invariant (I := (· = ⟨.eat, f, fs⟩)) (fun p c hc hp => by subst hp; simp only [stepC]; rw [if_pos hc]) cs _ h rfl

/-- where the end of the line and a line break both close the record, so does any terminator: the line breaks after the first
are skipped -/
theorem run_term {p : P} {fs : List Str} (term : Str) (hterm : ∀ c ∈ term, isNL c = true)
    (heol : stepEOL p = ⟨.sr, [], fs⟩) (hnl : ∀ c, isNL c = true → stepC p c = ⟨.eat, [], fs⟩) :
    stepEOL (run p term) = ⟨.sr, [], fs⟩ := by
  cases term with
  | nil => exact heol
  | cons c cs =>
    rw [run_cons, hnl c (hterm c (by simp)), run_eat_nl _ _ _ fun c' hc' => hterm c' (by simp [hc'])]
    rfl

/-- at the end of the row the cell is saved, unless nothing at all was read since the start of the record -/
theorem pending_term {s0 : S} {p : P} {a : Bool × Str} {fs : List Str} (h : Pending s0 p a fs) (hs : s0 = .sf ∨ a ≠ (false, []))
    (term : Str) (hterm : ∀ c ∈ term, isNL c = true) : stepEOL (run p term) = ⟨.sr, [], fs ++ [a.2]⟩ := by
  have hp : Pending .sf p a fs := by
    rcases hs with rfl | hs
    · exact h
    · exact h.imp_left fun ⟨_, ha⟩ => absurd ha hs
  refine run_term term hterm ?_ fun c hc => ?_
  · rcases hp with ⟨rfl, rfl⟩ | rfl | rfl <;> rfl
  · have h1 : c ≠ '"' ∧ c ≠ ',' := by rcases isNL_iff.mp hc with rfl | rfl <;> decide
    rcases hp with ⟨rfl, rfl⟩ | rfl | rfl <;> simp [stepC, stepSF, P.save, hc, h1]

theorem needsQuote_false {f : Str} (h : needsQuote f = false) : ∀ c ∈ f, c ≠ ',' ∧ c ≠ '"' := by
  intro c hc
  simp only [needsQuote, List.any_eq_false, Bool.or_eq_true, beq_iff_eq, not_or] at h
  exact h c hc

theorem run_field {s0 : S} (hs : s0 = .sr ∨ s0 = .sf) (a : Bool × Str) (fs : List Str) (hnl : ∀ c ∈ a.2, isNL c = false) :
    Pending s0 (run ⟨s0, [], fs⟩ (renderField a.1 a.2)) a fs := by
  obtain ⟨q, f⟩ := a
  unfold renderField
  split
  next =>
    right; right
    have : stepC ⟨s0, [], fs⟩ '"' = ⟨.iq, [], fs⟩ := by rcases hs with rfl | rfl <;> rfl
    rw [run_cons, this, run_append, run_iq]
    rfl
  next hq =>
    have hq : q = false ∧ needsQuote f = false := by simpa using hq
    have hcl : clean f := fun c hc =>
      have ⟨h1, h2⟩ := needsQuote_false hq.2 c hc
      ⟨h1, h2, hnl c hc⟩
    cases f with
    | nil => left; exact ⟨rfl, by rw [hq.1]⟩
    | cons c cs =>
      right; left
      have ⟨h1, h2, h3⟩ := hcl c (by simp)
      have : stepC ⟨s0, [], fs⟩ c = ⟨.inf, [c], fs⟩ := by rcases hs with rfl | rfl <;> simp [stepC, stepSF, h1, h2, h3]
      rw [run_cons, this, run_inf fs [c] cs fun d hd => hcl d (by simp [hd])]
      rfl

theorem renderPairs_cons (a b : Bool × Str) (r : List (Bool × Str)) :
    renderPairs (a :: b :: r) = renderField a.1 a.2 ++ ',' :: renderPairs (b :: r) := by
  simp [renderPairs, joinSep]

/-- a whole rendered row (at least one cell) and its terminator: the cells are appended to the record.  From the start of a record
the bare empty line is excepted: it is the empty record, not `[""]` -/
theorem run_row {s0 : S} (hs : s0 = .sr ∨ s0 = .sf) (a : Bool × Str) (r : List (Bool × Str)) (hq : s0 = .sf ∨ a :: r ≠ [(false, [])])
    (fs : List Str) (hnl : ∀ x ∈ a :: r, ∀ c ∈ x.2, isNL c = false) (term : Str) (hterm : ∀ c ∈ term, isNL c = true) :
    stepEOL (run ⟨s0, [], fs⟩ (renderPairs (a :: r) ++ term)) = ⟨.sr, [], fs ++ a.2 :: r.map Prod.snd⟩ := by
  induction r generalizing a fs s0 with
  | nil =>
    rw [show renderPairs [a] = renderField a.1 a.2 from rfl, run_append]
    exact pending_term (run_field hs a fs (hnl a (by simp))) (hq.imp_right fun h e => h (e ▸ rfl)) term hterm
  | cons b r ih =>
    rw [renderPairs_cons, List.append_assoc, List.cons_append, run_append, run_cons,
      pending_comma hs (run_field hs a fs (hnl a (by simp))), ih (Or.inr rfl) b (Or.inl rfl) _ fun x hx => hnl x (by simp [hx])]
    simp

theorem choices_snd (quote : Nat → Bool) (row : List Str) : (choices quote row).map Prod.snd = row := by
  rw [choices, List.map_map]
  exact List.zipIdx_map_fst 0 row

/-! The control state alone: `eat` is entered only by a line break, `err` only from `eat`. -/

theorem stepC_noNL {p : P} {c : Char} (hc : isNL c = false) (h : p.st ≠ .eat ∧ p.st ≠ .err) :
    (stepC p c).st ≠ .eat ∧ (stepC p c).st ≠ .err := by
  obtain ⟨st, f, fs⟩ := p
  -- `apply_ite` moves the projection and the comparison into the branches of `stepC`'s tests, where they evaluate
  cases st <;> simp [stepC, stepSF, hc, P.save, apply_ite P.st, apply_ite (· = S.eat), apply_ite (· = S.err)] at h ⊢

theorem stepC_NL {p : P} {c : Char} (hc : isNL c = true) (h : p.st ≠ .err) : (stepC p c).st ≠ .err := by
  obtain ⟨st, f, fs⟩ := p
  cases st <;> simp [stepC, stepSF, hc, P.save, apply_ite P.st, apply_ite (· = S.err)] at h ⊢

theorem stepEOL_ne_err {p : P} (h : p.st ≠ .err) : (stepEOL p).st ≠ .err := by
  obtain ⟨st, f, fs⟩ := p
  cases st <;> simp [stepEOL] at h ⊢

theorem getLast?_append_ne_nil {a b : Str} (hb : b ≠ []) : (a ++ b).getLast? = b.getLast? := by
  rw [List.getLast?_append, List.getLast?_eq_some_getLast hb]; rfl

/-- the last character of `x ++ l.flatMap f` is that of `x` or of some `f a` -/
theorem edgeOK_append_flatMap {α : Type} (f : α → Str) (l : List α) (x : Str) (hx : x ≠ []) (hxe : EdgeOK x)
    (hf : ∀ a ∈ l, ∀ c, (f a).getLast? = some c → isPySpace c = false) : EdgeOK (x ++ l.flatMap f) := by
  obtain ⟨y, ys, rfl⟩ := List.exists_cons_of_ne_nil hx
  refine ⟨hxe.1, fun c hc => ?_⟩
  rw [List.getLast?_append, List.getLast?_flatMap] at hc
  cases h : l.reverse.findSome? fun a => (f a).getLast? with
  | none => rw [h] at hc; exact hxe.2 c hc
  | some c' =>
    rw [h] at hc; cases hc
    obtain ⟨a, ha, hc⟩ := List.exists_of_findSome?_eq_some h
    exact hf a (List.mem_reverse.mp ha) c hc

theorem spaces_succ (n : Nat) : spaces (n + 1) = ' ' :: spaces n := List.replicate_succ

theorem mem_spaces {n : Nat} {c : Char} (h : c ∈ spaces n) : c = ' ' := List.eq_of_mem_replicate h

theorem spaces_isPySpace {n : Nat} : ∀ c ∈ spaces n, isPySpace c = true := by
  intro c hc; rw [mem_spaces hc]; decide

theorem splitOn_spaces (g : Nat) (y : Str) : splitOn ' ' (spaces g ++ y) = List.replicate g [] ++ splitOn ' ' y := by
  induction g with
  | zero => simp [spaces]
  | succ n ih => simp [spaces_succ, splitOn, ih, List.replicate_succ]

def gapsStr (toks : List (Nat × Str)) : Str := toks.flatMap fun (g, t) => spaces (g + 1) ++ t

theorem body_eq (e : VwEntry) : e.body = e.ns ++ gapsStr e.toks := rfl

/-- the fields of `x ++ gapsStr toks`: `x`, then the tokens with empty fields between them where spaces repeat -/
theorem splitOn_body (x : Str) (toks : List (Nat × Str)) (hx : ∀ c ∈ x, c ≠ ' ')
    (ht : ∀ t ∈ toks, t.2 ≠ [] ∧ ∀ c ∈ t.2, c ≠ ' ') :
    ∃ rest, splitOn ' ' (x ++ gapsStr toks) = x :: rest ∧ rest.filter (fun y => y != []) = toks.map Prod.snd := by
  induction toks generalizing x with
  | nil => exact ⟨[], by simpa [gapsStr] using splitOn_nodelim ' ' x hx, rfl⟩
  | cons gt r ih =>
    obtain ⟨g, t⟩ := gt
    have ⟨hne, hsp⟩ := ht (g, t) (by simp)
    obtain ⟨rest, hs, hf⟩ := ih t hsp fun t' ht' => ht t' (by simp [ht'])
    have h1 : x ++ gapsStr ((g, t) :: r) = x ++ ' ' :: (spaces g ++ (t ++ gapsStr r)) := by
      simp [gapsStr, spaces_succ]
    refine ⟨List.replicate g [] ++ t :: rest, by rw [h1, splitOn_append_delim ' ' x _ hx, splitOn_spaces, hs], ?_⟩
    simp [List.filter_append, hne, hf]

theorem VwTok.no_space {t : Str} (h : VwTok t) : ∀ c ∈ t, c ≠ ' ' := fun c hc => (h.2.1 c hc).1

theorem VwTok.no_bar {t : Str} (h : VwTok t) : ∀ c ∈ t, c ≠ '|' := fun c hc => (h.2.1 c hc).2

theorem body_no_bar {e : VwEntry} (he : e.WF) : ∀ c ∈ e.body, c ≠ '|' := by
  intro c hc
  simp only [VwEntry.body, List.mem_append, List.mem_flatMap] at hc
  rcases hc with hc | ⟨t, ht, hc | hc⟩
  · exact he.1.no_bar c hc
  · rw [mem_spaces hc]; decide
  · exact (he.2 t ht).no_bar c hc

theorem body_ne_nil {e : VwEntry} (he : e.WF) : e.body ≠ [] := by
  rw [body_eq]; intro h
  exact he.1.1 (List.append_eq_nil_iff.mp h).1

theorem body_edgeOK {e : VwEntry} (he : e.WF) : EdgeOK e.body :=
  edgeOK_append_flatMap _ _ _ he.1.1 he.1.2.2 fun t ht c h =>
    (he.2 t ht).2.2.2 c (by rwa [getLast?_append_ne_nil (he.2 t ht).1] at h)

/-- one `|`-part as the parser sees it (the body of an entry followed by the spaces before the next bar) -/
theorem vwPart_body {e : VwEntry} (he : e.WF) (k : Nat) :
    vwPart (e.body ++ spaces k) = (e.ns, joinSep ['-'] (e.toks.map Prod.snd)) := by
  have hs : pyStrip (e.body ++ spaces k) = e.body := by
    simpa using pyStrip_core [] e.body (spaces k) (by simp) spaces_isPySpace (body_edgeOK he)
  obtain ⟨rest, hsplit, hf⟩ := splitOn_body e.ns e.toks he.1.no_space fun t ht => ⟨(he.2 t ht).1, (he.2 t ht).no_space⟩
  rw [vwPart, hs, body_eq, hsplit]
  simp only [hf]

theorem label_of_part {e : VwEntry} (he : e.WF) (k : Nat) :
    (splitOn ' ' (e.body ++ spaces k)).headD [] = e.ns := by
  have hsp : gapsStr e.toks ++ spaces k = [] ∨ ∃ r, gapsStr e.toks ++ spaces k = ' ' :: r := by
    rcases e.toks with _ | ⟨gt, r⟩
    · cases k with
      | zero => exact Or.inl rfl
      | succ n => exact Or.inr ⟨_, rfl⟩
    · exact Or.inr ⟨_, rfl⟩
  rw [body_eq, List.append_assoc]
  rcases hsp with h | ⟨r, h⟩
  · rw [h, List.append_nil, splitOn_nodelim _ _ he.1.no_space]; rfl
  · rw [h, splitOn_append_delim _ _ _ he.1.no_space]; rfl

/-- the `|`-parts of a rendered line: the first is `x` and the spaces before the first bar, the others are read by `vwPart`
as the entries -/
theorem splitOn_bar (x : Str) (es : List VwEntry) (hx : ∀ c ∈ x, c ≠ '|') (hes : ∀ e ∈ es, e.WF) :
    ∃ k T, splitOn '|' (x ++ es.flatMap fun e => spaces e.pre ++ '|' :: e.body) = (x ++ spaces k) :: T ∧
      T.map vwPart = es.map fun e => (e.ns, joinSep ['-'] (e.toks.map Prod.snd)) := by
  induction es generalizing x with
  | nil => exact ⟨0, [], by simpa [spaces] using splitOn_nodelim '|' x hx, rfl⟩
  | cons e r ih =>
    have he := hes e (by simp)
    obtain ⟨k', T', hp, hT⟩ := ih e.body (body_no_bar he) fun e' he' => hes e' (by simp [he'])
    have hxs : ∀ c ∈ x ++ spaces e.pre, c ≠ '|' := fun c hc => by
      rcases List.mem_append.mp hc with hc | hc
      · exact hx c hc
      · rw [mem_spaces hc]; decide
    refine ⟨e.pre, (e.body ++ spaces k') :: T', ?_, by simp [hT, vwPart_body he]⟩
    rw [List.flatMap_cons, List.append_assoc, List.cons_append, ← List.append_assoc, splitOn_append_delim '|' _ _ hxs, hp]

/-- the fold that `vwHash` runs over the parsed parts of a line and `vwSpec` over the declared namespaces -/
def hashPairs (nsmap : List (Str × Str)) (nvs : List (Str × Str)) : List (Str × Str) :=
  nvs.foldl (fun h nv => match lookupStr nv.1 nsmap with
    | some col => (col, nv.2) :: h
    | none => h) []

theorem vwHash_eq (nsmap : List (Str × Str)) (parts : List Str) : vwHash nsmap parts = hashPairs nsmap (parts.map vwPart) := by
  unfold vwHash hashPairs
  rw [List.foldl_map]
  rfl

theorem vwSpec_eq (nsmap : List (Str × Str)) (header : List Str) (incl : Bool) (label : Str) (es : List (Str × List Str)) :
    vwSpec nsmap header incl label es =
      some label :: header.tail.map fun el =>
        dropPrefix incl (lookupStr el (hashPairs nsmap (es.map fun e => (e.1, joinSep ['-'] e.2)))) := by
  unfold vwSpec hashPairs
  rw [List.foldl_map]
  rfl

theorem vwSpec_length (nsmap : List (Str × Str)) (header : List Str) (incl : Bool) (label : Str) (es : List (Str × List Str))
    (hh : header ≠ []) : (vwSpec nsmap header incl label es).length = header.length := by
  rw [vwSpec_eq]
  cases header with
  | nil => exact absurd rfl hh
  | cons a r => simp

theorem render_edgeOK (lab : VwEntry) (es : List VwEntry) (hlab : lab.WF) (hes : ∀ e ∈ es, e.WF) :
    EdgeOK (vwRender lab es) :=
  edgeOK_append_flatMap _ _ _ (body_ne_nil hlab) (body_edgeOK hlab) fun e he c h =>
    (body_edgeOK (hes e he)).2 c (by
      rwa [← List.singleton_append, ← List.append_assoc, getLast?_append_ne_nil (body_ne_nil (hes e he))] at h)

/-- looking a column up in the hash: the LAST pair whose namespace the map sends to the column gives the value (each such
pair is put in front of the hash) -/
theorem lookupStr_hashPairs (nsmap : List (Str × Str)) (col : Str) (nvs : List (Str × Str)) :
    lookupStr col (hashPairs nsmap nvs) = (nvs.reverse.find? fun nv => lookupStr nv.1 nsmap == some col).map Prod.snd :=
  ListAux.foldl_hist (P := fun hist h => lookupStr col h = (hist.reverse.find? _).map Prod.snd) rfl
    (fun hist h nv hh => by
      rw [List.reverse_append, List.reverse_singleton, List.singleton_append, List.find?_cons]
      cases hl : lookupStr nv.1 nsmap with
      | none => simpa using hh
      | some c => cases hb : c == col <;> simp [lookupStr, hb, hh]) nvs

theorem vwSpec_col (nsmap : List (Str × Str)) (header : List Str) (incl : Bool) (label : Str) (es : List (Str × List Str))
    (i : Nat) (col : Str) (hi : header.tail[i]? = some col) :
    (vwSpec nsmap header incl label es)[i + 1]? =
      some (dropPrefix incl ((es.reverse.find? fun e => lookupStr e.1 nsmap == some col).map fun e => joinSep ['-'] e.2)) := by
  rw [vwSpec_eq, List.getElem?_cons_succ, List.getElem?_map, hi, Option.map_some, lookupStr_hashPairs,
    ← List.map_reverse, List.find?_map, Option.map_map]
  rfl

def nsSpecStep (s : NsState) (e : NsEntry) : NsState :=
  { map := dictSet s.map e.id e.feature,
    floats := if e.type == some f32 then setAdd s.floats e.feature else s.floats }

theorem nsSpec_eq_foldl (es : List NsEntry) : nsSpec es = es.foldl nsSpecStep ⟨[], []⟩ := rfl

/-- a line of two fields is taken as `id,feature` of type "generic", unless the id has a `_` -/
theorem nsStep_two (s : NsState) {line a b : Str} (h : splitOn ',' (pyStrip line) = [a, b]) (ha : a.contains '_' = false) :
    nsStep s line = ⟨s.floats, dictSet s.map a b⟩ := by
  have : ("generic".toList == "f32".toList) = false := by decide +kernel
  simp only [nsStep, h, ha, this, Bool.not_false, if_true, Bool.false_eq_true, if_false]

theorem nsStep_three (s : NsState) {line a b c : Str} (h : splitOn ',' (pyStrip line) = [a, b, c]) :
    nsStep s line = ⟨if c == f32 then setAdd s.floats b else s.floats, dictSet s.map a b⟩ := by
  unfold nsStep
  rw [h]
  rfl

theorem nsStep_line (s : NsState) (e : NsEntry) (he : e.WF) : nsStep s e.line = nsSpecStep s e := by
  obtain ⟨h1, h2, h3, h4, h5⟩ := he
  have hs : pyStrip e.line = e.line := by simpa using pyStrip_core [] e.line [] (by simp) (by simp) h4
  cases ht : e.type with
  | none =>
    have hsp : splitOn ',' (pyStrip e.line) = [e.id, e.feature] := by
      rw [hs, NsEntry.line, ht, splitOn_append_delim ',' _ _ h1, splitOn_nodelim ',' _ h2]
    rw [nsStep_two s hsp (h5 ht)]
    simp [nsSpecStep, ht]
  | some t =>
    have hsp : splitOn ',' (pyStrip e.line) = [e.id, e.feature, t] := by
      rw [hs, NsEntry.line, ht]
      simp only [List.append_assoc, List.cons_append]
      rw [splitOn_append_delim ',' _ _ h1, splitOn_append_delim ',' _ _ h2, splitOn_nodelim ',' _ (h3 t ht)]
    rw [nsStep_three s hsp]
    simp [nsSpecStep, ht]

theorem nsStep_blank (s : NsState) : nsStep s [] = s := by
  simp [nsStep, pyStrip, rstripP, splitOn]

theorem nsFold_lines (es : List NsEntry) (hes : ∀ e ∈ es, e.WF) (s : NsState) :
    (es.map NsEntry.line).foldl nsStep s = es.foldl nsSpecStep s := by
  induction es generalizing s with
  | nil => rfl
  | cons e r ih =>
    rw [List.map_cons, List.foldl_cons, List.foldl_cons, nsStep_line s e (hes e (by simp))]
    exact ih (fun e' he' => hes e' (by simp [he'])) _

theorem univNL_id (l : Str) (h : ∀ c ∈ l, c ≠ '\r') : univNL l = l := by
  induction l with
  | nil => rfl
  | cons c cs ih =>
    have hc : c ≠ '\r' := h c (by simp)
    -- the last equation of `univNL`; its side conditions say that the earlier patterns do not match
    rw [univNL.eq_4 _ _ (fun _ e => absurd e hc) (fun e => absurd e hc), ih fun c' hc' => h c' (by simp [hc'])]

theorem namespaceMap_joinSep (ls : List Str) (hne : ls ≠ []) (hl : ∀ l ∈ ls, ∀ c ∈ l, c ≠ '\n' ∧ c ≠ '\r') :
    namespaceMap (joinSep ['\n'] ls) = nsFold ls := by
  have hcr : ∀ c ∈ joinSep ['\n'] ls, c ≠ '\r' := by
    intro c hc
    rcases mem_joinSep hc with h | ⟨l, hl', hcl⟩
    · rw [List.mem_singleton.mp h]; decide
    · exact (hl l hl' c hcl).2
  rw [namespaceMap, univNL_id _ hcr, splitOn_joinSep '\n' _ hne fun l hl' c hc => (hl l hl' c hc).1]

theorem dictSet_new (d : List (Str × Str)) (k v : Str) (h : ∀ kv ∈ d, kv.1 ≠ k) : dictSet d k v = d ++ [(k, v)] := by
  induction d with
  | nil => rfl
  | cons kv r ih =>
    have hk : (kv.1 == k) = false := by simpa using h kv (by simp)
    simp [dictSet, hk, ih fun kv' h' => h kv' (by simp [h'])]

theorem mem_setAdd {s : List Str} {x y : Str} : x ∈ setAdd s y ↔ x ∈ s ∨ x = y := by
  by_cases h : y ∈ s
  · simp only [setAdd, List.contains_iff_mem, h, if_true]
    exact ⟨Or.inl, fun h' => h'.elim id fun e => e ▸ h⟩
  · simp [setAdd, h]

theorem mem_nsSpecStep_floats (s : NsState) (e : NsEntry) (f : Str) :
    f ∈ (nsSpecStep s e).floats ↔ f ∈ s.floats ∨ (e.type = some f32 ∧ e.feature = f) := by
  by_cases ht : e.type = some f32 <;> simp [nsSpecStep, ht, mem_setAdd, @eq_comm _ f]

theorem ingest_fold {α : Type} (parse : Str → List α) (n : Nat) (lines : List Str) (st : List (List α) × Nat) :
    lines.foldl (ingest parse n) st =
      (st.1 ++ (lines.map parse).filter (fun r => r.length == n),
       st.2 + ((lines.map parse).filter (fun r => !(r.length == n))).length) := by
  induction lines generalizing st with
  | nil => simp
  | cons l r ih =>
    rw [List.foldl_cons, ih]
    cases h : (parse l).length == n <;> simp [ingest, h, Nat.add_assoc, Nat.add_comm 1]

theorem rendered_enter_batches {α β : Type} (parse : Str → List α) (render : β → Str) (row : β → List α) (ncols : Nat)
    (items : List β) (h : ∀ b ∈ items, parse (render b) = row b) :
    (ingestAll parse ncols (items.map render)).1 = (items.map row).filter (fun r => r.length == ncols) := by
  rw [ingestAll, ingest_fold, List.map_map, List.map_congr_left (g := row) (f := parse ∘ render) h, List.nil_append]

-- the examples of Props/C16.lean evaluate the well-formedness predicates
instance (l : Str) : Decidable (EdgeOK l) := inferInstanceAs (Decidable ((∀ c ∈ l.head?, _) ∧ ∀ c ∈ l.getLast?, _))
instance (t : Str) : Decidable (VwTok t) := inferInstanceAs (Decidable (_ ∧ _ ∧ _))
instance (e : VwEntry) : Decidable e.WF := inferInstanceAs (Decidable (_ ∧ _))
instance (e : NsEntry) : Decidable e.WF := inferInstanceAs (Decidable (_ ∧ _ ∧ _ ∧ _ ∧ _))

end C16
