import OutrankModel.Model.Stream
import OutrankModel.Lemmas.ListAux
/-!
Helper lemmas for C08-2..4 and C09-1: linear orders, the sort and its uniqueness, grouping (`aggregate` and `aggregateSkip`
as two instances of one `groupBy`), final sort, checkpoint trace.  Core Lean only.
-/
namespace Stream

structure LinOrd {α : Type} (le : α → α → Bool) : Prop where
  total : ∀ a b, le a b = true ∨ le b a = true
  trans : ∀ a b c, le a b = true → le b c = true → le a c = true
  antisymm : ∀ a b, le a b = true → le b a = true → a = b

theorem LinOrd.of_le {α γ : Type} [LE γ] [Std.IsLinearOrder γ] {r : α → α → Bool} (f : α → γ)
    (hf : ∀ a b, f a = f b → a = b) (hr : ∀ a b, r a b = true ↔ f a ≤ f b) : LinOrd r where
  total a b := by rw [hr, hr]; exact Std.le_total
  trans a b c := by rw [hr, hr, hr]; exact Std.le_trans
  antisymm a b := by rw [hr, hr]; exact fun h h' => hf _ _ (Std.le_antisymm h h')

theorem LinOrd.lex {α β γ : Type} [LE γ] [LT γ] [Std.IsLinearOrder γ] [Std.LawfulOrderLT γ]
    {r : α × β → α × β → Bool} {le : β → β → Bool} (f : α → γ) (hf : ∀ a b, f a = f b → a = b) (h : LinOrd le)
    (hr : ∀ a b, r a b = true ↔ f a.1 < f b.1 ∨ (a.1 = b.1 ∧ le a.2 b.2 = true)) : LinOrd r where
  total a b := by
    rw [hr, hr]
    rcases Std.lt_trichotomy (f a.1) (f b.1) with h1 | h1 | h1
    · exact .inl (.inl h1)
    · have e := hf _ _ h1
      exact (h.total a.2 b.2).imp (fun h2 => .inr ⟨e, h2⟩) (fun h2 => .inr ⟨e.symm, h2⟩)
    · exact .inr (.inl h1)
  trans a b c := by
    rw [hr, hr, hr]
    rintro (h1 | ⟨e1, h1⟩) (h2 | ⟨e2, h2⟩)
    · exact .inl (Std.lt_trans h1 h2)
    · exact .inl (e2 ▸ h1)
    · exact .inl (e1 ▸ h2)
    · exact .inr ⟨e1.trans e2, h.trans _ _ _ h1 h2⟩
  antisymm a b := by
    rw [hr, hr]
    rintro (h1 | ⟨e1, h1⟩) (h2 | ⟨e2, h2⟩)
    · exact absurd (Std.lt_trans h1 h2) Std.lt_irrefl
    · exact absurd (e2 ▸ h1) Std.lt_irrefl
    · exact absurd (e1 ▸ h2) Std.lt_irrefl
    · exact Prod.ext e1 (h.antisymm _ _ h1 h2)

section Sorting
variable {α : Type} {le : α → α → Bool}

theorem isort_eq_of_sorted (h : LinOrd le) {s l : List α} (hs : s.Pairwise (fun a b => le a b = true))
    (hp : s.Perm l) : Srt.isort le l = s :=
  ((Srt.isort_perm le l).trans hp.symm).eq_of_pairwise (fun a b _ _ => h.antisymm a b)
    (Srt.isort_pairwise le h.trans h.total l) hs

theorem isort_eq_of_perm (h : LinOrd le) {l l' : List α} (hp : l.Perm l') : Srt.isort le l = Srt.isort le l' :=
  isort_eq_of_sorted h (Srt.isort_pairwise le h.trans h.total l') ((Srt.isort_perm le l').trans hp.symm)

theorem adjacent_iff_pairwise {R : α → α → Bool} (htr : ∀ a b c, R a b = true → R b c = true → R a c = true) :
    ∀ t : List α, (t.zip t.tail).all (fun p => R p.1 p.2) = true ↔ t.Pairwise (fun a b => R a b = true)
  | [] => by simp
  | [_] => by simp
  | a :: b :: l => by
    have ih := adjacent_iff_pairwise htr (b :: l)
    rw [List.tail_cons] at ih
    rw [List.tail_cons, List.zip_cons_cons, List.all_cons, Bool.and_eq_true, ih, List.pairwise_cons (a := a)]
    refine and_congr_left fun hs => ⟨fun hab x hx => ?_, fun h => h b List.mem_cons_self⟩
    rcases List.mem_cons.mp hx with rfl | hx
    · exact hab
    · exact htr _ _ _ hab ((List.pairwise_cons.mp hs).1 x hx)

end Sorting

theorem median_perm {σ : Type} (o : Ops σ) (h : LinOrd o.le) {xs ys : List σ} (hp : xs.Perm ys) :
    median o xs = median o ys := by
  unfold median
  rw [isort_eq_of_perm h hp]

section Final
variable {κ σ : Type}

theorem finalTable_perm (o : Ops σ) (t : List (κ × σ)) : (finalTable o t).Perm t := Srt.isort_perm _ t

theorem finalTable_sorted (o : Ops σ) (ho : LinOrd o.le) (t : List (κ × σ)) :
    (finalTable o t).Pairwise (fun a b => o.le a.2 b.2 = true) :=
  Srt.isort_pairwise (fun a b => o.le a.2 b.2) (fun a b c => ho.trans a.2 b.2 c.2) (fun a b => ho.total a.2 b.2) t

theorem mem_finalTable (o : Ops σ) (t : List (κ × σ)) (x : κ × σ) : x ∈ finalTable o t ↔ x ∈ t :=
  (finalTable_perm o t).mem_iff

end Final

section Agg
variable {κ σ τ : Type} [DecidableEq κ]

theorem mem_scoresOf {rows : List (κ × σ)} {k : κ} {s : σ} : s ∈ scoresOf rows k ↔ (k, s) ∈ rows := by
  simp only [scoresOf, List.mem_map, List.mem_filter, decide_eq_true_eq]
  exact ⟨fun ⟨r, ⟨hr, hk⟩, hs⟩ => hk ▸ hs ▸ hr, fun h => ⟨(k, s), ⟨h, rfl⟩, rfl⟩⟩

theorem scoresOf_ne_nil {rows : List (κ × σ)} {k : κ} : scoresOf rows k ≠ [] ↔ ∃ s, (k, s) ∈ rows :=
  ⟨fun h => (List.exists_mem_of_ne_nil _ h).imp fun _ => mem_scoresOf.mp,
    fun ⟨_, h⟩ => List.ne_nil_of_mem (mem_scoresOf.mpr h)⟩

theorem scoresOf_cons (u : κ × σ) (r : List (κ × σ)) (k : κ) :
    scoresOf (u :: r) k = (if u.1 = k then [u.2] else []) ++ scoresOf r k := by
  by_cases h : u.1 = k <;> simp [scoresOf, h]

theorem scoresOf_append (r r' : List (κ × σ)) (k : κ) : scoresOf (r ++ r') k = scoresOf r k ++ scoresOf r' k := by
  simp [scoresOf]

theorem scoresOf_flatten {β : Type} (f : β → List (κ × σ)) (bs : List β) (k : κ) :
    scoresOf (bs.map f).flatten k = (bs.map fun b => scoresOf (f b) k).flatten := by
  induction bs with
  | nil => rfl
  | cons b bs ih => simp only [List.map_cons, List.flatten_cons, scoresOf_append, ih]

theorem scoresOf_map_snd (rows : List (κ × σ)) (f : σ → τ) (k : κ) :
    scoresOf (rows.map fun r => (r.1, f r.2)) k = (scoresOf rows k).map f := by
  simp only [scoresOf, List.filter_map, List.map_map]
  rfl

theorem scoresOf_perm {rows rows' : List (κ × σ)} (hp : rows.Perm rows') (k : κ) :
    (scoresOf rows k).Perm (scoresOf rows' k) := (hp.filter _).map _

theorem mem_keys (kle : κ → κ → Bool) (rows : List (κ × σ)) (k : κ) :
    k ∈ keys kle rows ↔ ∃ s, (k, s) ∈ rows := by
  rw [keys, List.mem_eraseDups, (Srt.isort_perm kle _).mem_iff, List.mem_map]
  exact ⟨fun ⟨r, hm, e⟩ => ⟨r.2, e ▸ hm⟩, fun ⟨s, hm⟩ => ⟨(k, s), hm, rfl⟩⟩

theorem keys_nodup (kle : κ → κ → Bool) (rows : List (κ × σ)) : (keys kle rows).Nodup :=
  ListAux.nodup_eraseDups _

theorem keys_sorted (kle : κ → κ → Bool) (h : LinOrd kle) (rows : List (κ × σ)) :
    (keys kle rows).Pairwise (fun a b => kle a b = true) :=
  (Srt.isort_pairwise kle h.trans h.total _).sublist (ListAux.eraseDups_sublist _)

theorem keys_perm (kle : κ → κ → Bool) (h : LinOrd kle) {rows rows' : List (κ × σ)} (hp : rows.Perm rows') :
    keys kle rows = keys kle rows' := by
  rw [keys, isort_eq_of_perm h (hp.map _), keys]

theorem keys_map_snd (kle : κ → κ → Bool) (rows : List (κ × σ)) (f : σ → τ) :
    keys kle (rows.map fun r => (r.1, f r.2)) = keys kle rows := by
  rw [keys, List.map_map, keys]
  rfl

/-- `groupby(...)` followed by any summary `f` of the group's scores; `aggregate` is `f = median`, `aggregateSkip` the
NaN-skipping median -/
def groupBy (kle : κ → κ → Bool) (f : List σ → τ) (rows : List (κ × σ)) : List (κ × τ) :=
  (keys kle rows).map fun k => (k, f (scoresOf rows k))

theorem aggregate_eq (kle : κ → κ → Bool) (o : Ops σ) : aggregate kle o = groupBy kle (median o) := rfl

def skipMedian (o : Ops σ) (l : List (Option σ)) : Option σ :=
  if (l.filterMap id).isEmpty then none else some (median o (l.filterMap id))

theorem aggregateSkip_eq (kle : κ → κ → Bool) (o : Ops σ) : aggregateSkip kle o = groupBy kle (skipMedian o) := rfl

theorem skipMedian_perm (o : Ops σ) (ho : LinOrd o.le) {l l' : List (Option σ)} (hp : l.Perm l') :
    skipMedian o l = skipMedian o l' := by
  unfold skipMedian
  rw [median_perm o ho (hp.filterMap id), (hp.filterMap id).isEmpty_eq]

theorem mem_groupBy (kle : κ → κ → Bool) (f : List σ → τ) (rows : List (κ × σ)) (k : κ) (m : τ) :
    (k, m) ∈ groupBy kle f rows ↔ (∃ s, (k, s) ∈ rows) ∧ m = f (scoresOf rows k) := by
  simp only [groupBy, List.mem_map, Prod.mk.injEq, ← mem_keys kle]
  exact ⟨fun ⟨_, hk, e, hm⟩ => e ▸ ⟨hk, hm.symm⟩, fun ⟨hk, hm⟩ => ⟨k, hk, rfl, hm.symm⟩⟩

theorem groupBy_keys (kle : κ → κ → Bool) (f : List σ → τ) (rows : List (κ × σ)) :
    (groupBy kle f rows).map (·.1) = keys kle rows := by
  simp [groupBy, Function.comp_def]

theorem groupBy_perm (kle : κ → κ → Bool) (hk : LinOrd kle) (f : List σ → τ)
    (hf : ∀ {l l'}, l.Perm l' → f l = f l') {rows rows' : List (κ × σ)} (hp : rows.Perm rows') :
    groupBy kle f rows = groupBy kle f rows' := by
  unfold groupBy
  rw [keys_perm kle hk hp]
  exact List.map_congr_left fun k _ => by rw [hf (scoresOf_perm hp k)]

end Agg

section Disk
variable {ρ τ : Type}

def prefixRows (acc : List ρ) (bs : List (List ρ)) (j : Nat) : List ρ := acc ++ (bs.take (j + 1)).flatten

theorem prefixRows_zero (acc b : List ρ) (bs : List (List ρ)) : prefixRows acc (b :: bs) 0 = acc ++ b := by
  simp [prefixRows]

theorem prefixRows_succ (acc b : List ρ) (bs : List (List ρ)) (j : Nat) :
    prefixRows acc (b :: bs) (j + 1) = prefixRows (acc ++ b) bs j := by
  simp [prefixRows]

/-- the checkpoint trace in closed form, for both kinds of heuristic: step `j` either writes the aggregate of the rows so
far or leaves the disk as it was at the START -/
theorem diskGo_eq {agg : List ρ → τ} {isConst tail : Bool} {n : Nat} {bs : List (List ρ)} :
    ∀ {acc : List ρ} {disk : Option τ} {k : Nat}, (isConst = true → bs.length + k ≤ n) →
    diskGo agg isConst tail n acc disk k bs =
      (List.range bs.length).map fun j =>
        if (!isConst || (tail && (k + j + 1 == n))) && !(prefixRows acc bs j).isEmpty
        then some (agg (prefixRows acc bs j)) else disk := by
  induction bs with
  | nil => intros; rfl
  | cons b bs ih =>
    intro acc disk k hk
    rw [diskGo, ih (fun h => by have := hk h; simp only [List.length_cons] at this; omega),
      List.length_cons, List.range_succ_eq_map, List.map_cons, List.map_map, prefixRows_zero]
    refine congrArg _ (List.map_congr_left fun j hj => ?_)
    have e : k + 1 + j + 1 = k + j.succ + 1 := by omega
    simp only [Function.comp, prefixRows_succ, e]
    split
    · rfl
    · -- an earlier write cannot show through: a step that writes is followed by writing steps only (rows, once there,
      -- stay; for `Constant` the one writing step is the last)
      rename_i hlater
      refine if_neg fun hnow => hlater ?_
      cases isConst
      · simp only [Bool.not_false, Bool.true_or, Bool.true_and, Bool.not_eq_true', List.isEmpty_eq_false_iff]
          at hnow ⊢
        exact List.append_ne_nil_of_left_ne_nil hnow _
      · have := hk rfl
        simp only [List.length_cons, List.mem_range] at this hj
        simp only [Bool.not_true, Bool.false_or, Bool.and_eq_true, beq_iff_eq] at hnow
        omega

end Disk

end Stream
