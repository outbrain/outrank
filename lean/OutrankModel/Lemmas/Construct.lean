import OutrankModel.Model.Construct
import Mathlib.Data.List.Sublists
import OutrankModel.Lemmas.ListAux
/-!
Helper lemmas for C10 / C11 (`Model/Construct.lean`): injectivity of the length-prefixed encoding, `combos`,
equality kernels and relabelings, Python-dict semantics, frames, `splitBy` (core's `List.splitOnP`: `splitBy_eq`).
-/
namespace Construct
variable {β : Type}

theorem toDigits_inj {a b : Nat} (h : Nat.toDigits 10 a = Nat.toDigits 10 b) : a = b := by
  have := congrArg (fun l => Nat.ofDigitChars 10 l 0) h
  simpa [Nat.ofDigitChars_ten_toDigits] using this

theorem colon_not_mem_toDigits (n : Nat) : ':' ∉ Nat.toDigits 10 n := fun h => by
  have := Nat.isDigit_of_mem_toDigits (by decide) (by decide) h
  revert this; decide

theorem append_sep_inj {α : Type} {c : α} {a b r s : List α} (ha : c ∉ a) (hb : c ∉ b) (h : a ++ c :: r = b ++ c :: s) :
    a = b ∧ r = s := by
  induction a generalizing b with
  | nil =>
    cases b with
    | nil => exact ⟨rfl, List.tail_eq_of_cons_eq h⟩
    | cons y b => exact absurd (List.head_eq_of_cons_eq h ▸ List.mem_cons_self) hb
  | cons x a ih =>
    cases b with
    | nil => exact absurd ((List.head_eq_of_cons_eq h).symm ▸ List.mem_cons_self) ha
    | cons y b =>
      obtain ⟨rfl, h'⟩ := List.cons.inj h
      obtain ⟨rfl, rfl⟩ := ih (fun m => ha (.tail _ m)) (fun m => hb (.tail _ m)) h'
      exact ⟨rfl, rfl⟩

/-- a length-prefixed value is self-delimiting: it can be read off the front of any text -/
theorem encOne_append_inj {x y r s : List Char} (h : encOne x ++ r = encOne y ++ s) : x = y ∧ r = s := by
  simp only [encOne, List.append_assoc, List.cons_append] at h
  obtain ⟨hd, ht⟩ := append_sep_inj (colon_not_mem_toDigits _) (colon_not_mem_toDigits _) h
  exact List.append_inj ht (toDigits_inj hd)

theorem encChars_inj : ∀ {u v : List (List Char)}, encChars u = encChars v → u = v
  | [], [], _ => rfl
  | [], y :: v, h => by simp [encChars, encOne] at h
  | x :: u, [], h => by simp [encChars, encOne] at h
  | x :: u, y :: v, h => by
    obtain ⟨rfl, hr⟩ := encOne_append_inj (r := encChars u) (s := encChars v) h
    rw [encChars_inj hr]

theorem combos_eq {α : Type} : ∀ (k : Nat) (l : List α), combos k l = (List.sublistsLen k l).reverse
  | 0, l => by cases l <;> simp [combos]
  | k + 1, [] => by simp [combos]
  | k + 1, x :: xs => by
    simp [combos, combos_eq k xs, combos_eq (k + 1) xs, List.sublistsLen_succ_cons, List.map_reverse]

theorem combos_length_eq {α : Type} (k : Nat) (l : List α) : (combos k l).length = Nat.choose l.length k := by
  simp [combos_eq]

theorem combos_mem {α : Type} {k : Nat} {l c : List α} (h : c ∈ combos k l) : c.Sublist l ∧ c.length = k := by
  simpa [combos_eq] using h

theorem combos_nodup {α : Type} : ∀ (k : Nat) (l : List α), l.Nodup → (combos k l).Nodup :=
  fun k l h => combos_eq k l ▸ List.nodup_reverse.mpr (List.nodup_sublistsLen k h)

theorem SameKernel.symm {α β : Type} {a : List α} {b : List β} (h : SameKernel a b) : SameKernel b a :=
  ⟨h.1.symm, fun i j hi hj => (h.2 i j (h.1 ▸ hi) (h.1 ▸ hj)).symm⟩

theorem SameKernel.trans {α β γ : Type} {a : List α} {b : List β} {c : List γ} (h1 : SameKernel a b) (h2 : SameKernel b c) :
    SameKernel a c :=
  ⟨h1.1.trans h2.1, fun i j hi hj => (h1.2 i j hi hj).trans (h2.2 i j (h1.1 ▸ hi) (h1.1 ▸ hj))⟩

theorem sameKernel_map {α β : Type} (a : List α) (f : α → β) (hf : ∀ x ∈ a, ∀ y ∈ a, f x = f y → x = y) :
    SameKernel a (a.map f) := by
  refine ⟨by simp, fun i j hi hj => ?_⟩
  simp only [List.getElem?_map, List.getElem?_eq_getElem hi, List.getElem?_eq_getElem hj, Option.map_some, Option.some.injEq]
  exact ⟨fun e => by rw [e], fun e => hf _ (List.getElem_mem hi) _ (List.getElem_mem hj) e⟩

theorem relabel_of_kernel {α β : Type} [DecidableEq α] [Inhabited β] {Y : List α} {Y' : List β} (h : SameKernel Y Y') :
    ∃ f : α → β, (∀ a ∈ Y, ∀ b ∈ Y, f a = f b → a = b) ∧ Y.map f = Y' := by
  -- a value goes to what `Y'` holds at the value's first position in `Y`
  let f : α → β := fun n => Y'[Y.idxOf n]?.getD default
  have key : ∀ i (hi : i < Y.length), f Y[i] = Y'[i]'(h.1 ▸ hi) := by
    intro i hi
    have hk : Y.idxOf Y[i] < Y.length := List.idxOf_lt_length_iff.mpr (List.getElem_mem hi)
    have e : Y[Y.idxOf Y[i]]? = Y[i]? := by
      rw [List.getElem?_eq_getElem hk, List.getElem?_eq_getElem hi, List.getElem_idxOf hk]
    have e' := (h.2 _ _ hk hi).mp e
    show Y'[Y.idxOf Y[i]]?.getD default = _
    rw [e', List.getElem?_eq_getElem (h.1 ▸ hi)]; rfl
  refine ⟨f, ?_, ?_⟩
  · intro a ha b hb e
    obtain ⟨i, hi, rfl⟩ := List.getElem_of_mem ha
    obtain ⟨j, hj, rfl⟩ := List.getElem_of_mem hb
    rw [key i hi, key j hj] at e
    have : Y'[i]? = Y'[j]? := by
      rw [List.getElem?_eq_getElem (h.1 ▸ hi), List.getElem?_eq_getElem (h.1 ▸ hj), e]
    have := (h.2 i j hi hj).mpr this
    rw [List.getElem?_eq_getElem hi, List.getElem?_eq_getElem hj] at this
    exact Option.some.inj this
  · apply List.ext_getElem (by simp [h.1])
    intro i h1 h2
    simp only [List.getElem_map]
    exact key i (by simpa using h1)

theorem rowTuples_length (fr : Frame) (combo : List String) : (rowTuples fr combo).length = nrows fr := by
  simp only [rowTuples, List.length_map, List.length_range]

theorem rowTuples_getElem (fr : Frame) (combo : List String) (i : Nat) (hi : i < (rowTuples fr combo).length) :
    (rowTuples fr combo)[i] = combo.map (fun c => cell fr c i) := by
  simp only [rowTuples, List.getElem_map, List.getElem_range, List.map_map, cell, Function.comp_def, List.getElem?_toArray]

theorem rows_eq_iff (fr : Frame) (combo : List String) (i j : Nat) (hi : i < nrows fr) (hj : j < nrows fr) :
    (rowTuples fr combo)[i]? = (rowTuples fr combo)[j]? ↔ ∀ c ∈ combo, cell fr c i = cell fr c j := by
  have hl := rowTuples_length fr combo
  rw [List.getElem?_eq_getElem (hl ▸ hi), List.getElem?_eq_getElem (hl ▸ hj), rowTuples_getElem, rowTuples_getElem,
    Option.some.injEq]
  exact List.map_inj_left

theorem mem_uniq {α : Type} [DecidableEq α] {l : List α} {a : α} : a ∈ uniq l ↔ a ∈ l := by
  induction l with
  | nil => simp [uniq]
  | cons x xs ih =>
    simp only [uniq, List.mem_cons, List.mem_filter, decide_eq_true_eq, ih]
    by_cases h : a = x <;> simp [h]

theorem uniq_nodup {α : Type} [DecidableEq α] (l : List α) : (uniq l).Nodup := by
  induction l with
  | nil => simp [uniq]
  | cons x xs ih =>
    simp only [uniq, List.nodup_cons, List.mem_filter, decide_eq_true_eq]
    exact ⟨fun h => h.2 rfl, ih.sublist List.filter_sublist⟩

/-! `dictOfList` is a left fold, so its facts go by induction from the right (`dictOfList_concat`), each through one
fact about `dictInsert`. -/

section dict
variable {d : List (String × β)} {k : String} {v : β} {kv : String × β}

theorem mem_dictInsert (h : kv ∈ dictInsert d k v) : kv ∈ d ∨ kv = (k, v) := by
  induction d with
  | nil => exact Or.inr (List.mem_singleton.1 h)
  | cons p rest ih =>
    rw [dictInsert] at h
    split at h
    · next e =>
      rcases List.mem_cons.1 h with rfl | h
      · exact Or.inr (e ▸ rfl)
      · exact Or.inl (List.mem_cons_of_mem _ h)
    · rcases List.mem_cons.1 h with rfl | h
      · exact Or.inl List.mem_cons_self
      · exact (ih h).imp_left (List.mem_cons_of_mem _)

theorem mem_dictInsert_self : (k, v) ∈ dictInsert d k v := by
  induction d with
  | nil => simp [dictInsert]
  | cons p rest ih => by_cases e : p.1 = k <;> simp [dictInsert, e, ih]

theorem mem_dictInsert_of_ne (h : kv ∈ d) (hne : kv.1 ≠ k) : kv ∈ dictInsert d k v := by
  induction d with
  | nil => cases h
  | cons p rest ih =>
    rw [dictInsert]
    split
    · next e =>
      rcases List.mem_cons.1 h with rfl | h
      · exact absurd e hne
      · exact List.mem_cons_of_mem _ h
    · rcases List.mem_cons.1 h with rfl | h
      · exact List.mem_cons_self
      · exact List.mem_cons_of_mem _ (ih h)

theorem dictInsert_of_not_mem (h : k ∉ d.map (·.1)) : dictInsert d k v = d ++ [(k, v)] := by
  induction d with
  | nil => rfl
  | cons p rest ih =>
    rw [List.map_cons, List.mem_cons, not_or] at h
    simp [dictInsert, Ne.symm h.1, ih h.2]

theorem keys_dictInsert :
    (dictInsert d k v).map (·.1) = if k ∈ d.map (·.1) then d.map (·.1) else d.map (·.1) ++ [k] := by
  induction d with
  | nil => rfl
  | cons p rest ih =>
    rw [dictInsert]
    split
    · next e => rw [if_pos (e ▸ List.mem_cons_self)]; rfl
    · next e =>
      rw [List.map_cons, ih, List.map_cons]
      simp only [List.mem_cons, Ne.symm e, false_or]
      split <;> rfl

theorem dictOfList_concat (l : List (String × β)) (p : String × β) :
    dictOfList (l ++ [p]) = dictInsert (dictOfList l) p.1 p.2 := by
  simp [dictOfList]

theorem mem_dictOfList {l : List (String × β)} (h : kv ∈ dictOfList l) : kv ∈ l := by
  induction l using List.reverseRecOn with
  | nil => cases h
  | append_singleton l p ih =>
    rw [dictOfList_concat] at h
    rcases mem_dictInsert h with h | rfl
    · exact List.mem_append_left _ (ih h)
    · simp

/-- a Python dict lists its keys in the order of their first insertion -/
theorem keys_dictOfList (l : List (String × β)) : (dictOfList l).map (·.1) = (l.map (·.1)).eraseDups := by
  induction l using List.reverseRecOn with
  | nil => rfl
  | append_singleton l p ih =>
    rw [dictOfList_concat, keys_dictInsert, ih, List.map_append, List.map_singleton, ListAux.eraseDups_concat]

theorem dictOfList_of_nodup {l : List (String × β)} (h : (l.map (·.1)).Nodup) : dictOfList l = l := by
  induction l using List.reverseRecOn with
  | nil => rfl
  | append_singleton l p ih =>
    rw [List.map_append, List.nodup_append] at h
    rw [dictOfList_concat, ih h.1, dictInsert_of_not_mem fun hm => h.2.2 _ hm p.1 (by simp) rfl]

/-- a Python dict keeps the value written last -/
theorem dictOfList_last_wins (l1 l2 : List (String × β)) (k : String) (v : β) (hk : k ∉ l2.map (·.1)) :
    (k, v) ∈ dictOfList (l1 ++ (k, v) :: l2) := by
  induction l2 using List.reverseRecOn with
  | nil => rw [dictOfList_concat]; exact mem_dictInsert_self
  | append_singleton l p ih =>
    rw [List.map_append, List.mem_append, not_or] at hk
    rw [← List.cons_append, ← List.append_assoc, dictOfList_concat]
    exact mem_dictInsert_of_ne (ih hk.1) fun e => hk.2 (by simp [← e])

end dict

theorem lookup_eq_none {fr : Frame} {name : String} : fr.lookup name = none ↔ name ∉ names fr := by
  rw [List.lookup_eq_none_iff]
  constructor
  · rintro h hm
    obtain ⟨p, hp, rfl⟩ := List.mem_map.mp hm
    simpa using h p hp
  · exact fun h p hp => bne_iff_ne.mpr fun e => h (e ▸ List.mem_map_of_mem hp)

theorem colOf_mem {fr : Frame} {name : String} (h : name ∈ names fr) : (name, colOf fr name) ∈ fr := by
  cases hv : fr.lookup name with
  | none => exact absurd h (lookup_eq_none.mp hv)
  | some v =>
    obtain ⟨l₁, l₂, rfl, -⟩ := List.lookup_eq_some_iff.mp hv
    simp [colOf, hv]

theorem colOf_append {fr : Frame} (blk : Frame) {name : String} (h : name ∈ names fr) :
    colOf (fr ++ blk) name = colOf fr name := by
  cases hv : fr.lookup name with
  | none => exact absurd h (lookup_eq_none.mp hv)
  | some v => simp [colOf, List.lookup_append, hv]

theorem colOf_nil_of_not_mem {fr : Frame} {name : String} (h : name ∉ names fr) : colOf fr name = [] := by
  simp [colOf, lookup_eq_none.mpr h]

/-- the invariant of the construction steps; it holds of the empty frame too, for `n = 0` -/
def Rows (n : Nat) (fr : Frame) : Prop := nrows fr = n ∧ ∀ c ∈ fr, c.2.length = n

theorem Rows.wf {n : Nat} {fr : Frame} (h : Rows n fr) : WF fr := fun c hc => (h.2 c hc).trans h.1.symm

theorem Rows.append {n : Nat} {fr blk : Frame} (h : Rows n fr) (hb : ∀ c ∈ blk, c.2.length = n) : Rows n (fr ++ blk) := by
  refine ⟨?_, fun c hc => (List.mem_append.mp hc).elim (h.2 c) (hb c)⟩
  -- the row count is read off the first column, which is one of `blk` when `fr` is empty
  cases fr with
  | cons c rest => exact h.1
  | nil =>
    cases blk with
    | nil => exact h.1
    | cons c rest => exact hb c (by simp)

theorem Rows.length_colOf {n : Nat} {fr : Frame} (h : Rows n fr) {name : String} (hn : name ∈ names fr) :
    (colOf fr name).length = n := h.2 _ (colOf_mem hn)

theorem splitBy_eq (p : Char → Bool) (l : List Char) : splitBy p l = l.splitOnP p := by
  induction l with
  | nil => rfl
  | cons c cs ih =>
    obtain ⟨f, fs, h⟩ := List.exists_cons_of_ne_nil (List.splitOnP_ne_nil p cs)
    rw [splitBy, List.splitOnP_cons_eq_if_modifyHead, ih, h]
    rfl

theorem splitBy_clean (p : Char → Bool) {t : List Char} (ht : ∀ c ∈ t, p c = false) : splitBy p t = [t] := by
  rw [splitBy_eq, List.splitOnP_eq_singleton ht]

theorem splitBy_append_delim (p : Char → Bool) {t : List Char} (ht : ∀ c ∈ t, p c = false) {d : Char} (hd : p d = true)
    (s : List Char) : splitBy p (t ++ d :: s) = t :: splitBy p s := by
  rw [splitBy_eq, splitBy_eq, List.splitOnP_append_cons_of_forall_mem ht d hd]

theorem splitBy_joinD (p : Char → Bool) (rest : List (Char × List Char)) :
    ∀ (t : List Char), (∀ c ∈ t, p c = false) → (∀ x ∈ rest, p x.1 = true ∧ ∀ c ∈ x.2, p c = false) →
    splitBy p (joinD t rest) = t :: rest.map (·.2) := by
  induction rest with
  | nil => exact fun t ht _ => splitBy_clean p ht
  | cons x r ih =>
    intro t ht hr
    rw [joinD, splitBy_append_delim p ht (hr x (by simp)).1, ih _ (hr x (by simp)).2 fun y hy => hr y (by simp [hy])]
    rfl

theorem getElem?_zip_map {α β γ : Type} (f : α × β → γ) (ca : List α) (cb : List β) (i : Nat)
    (ha : i < ca.length) (hb : i < cb.length) : ((ca.zip cb).map f)[i]? = some (f (ca[i], cb[i])) := by
  rw [List.getElem?_map, List.getElem?_eq_getElem (by rw [List.length_zip]; exact Nat.lt_min.mpr ⟨ha, hb⟩),
    List.getElem_zip]
  rfl

theorem oneSidedCol_length (ca cb : List String) (u : String) : (oneSidedCol ca cb u).length = min ca.length cb.length := by
  simp [oneSidedCol]

theorem twoSidedCol_length (ca cb : List String) (ua ub : String) : (twoSidedCol ca cb ua ub).length = min ca.length cb.length := by
  simp [twoSidedCol]

theorem subOne_spec {fr : Frame} {a b : String} {col : Column} :
    col ∈ subOne fr a b ↔ ∃ u ∈ colOf fr b, col = ("SUBFEATURE-" ++ a ++ "&" ++ u, oneSidedCol (colOf fr a) (colOf fr b) u) := by
  simp only [subOne, List.mem_map, mem_uniq, eq_comm]

theorem subTwo_spec {fr : Frame} {a b : String} {col : Column} :
    col ∈ subTwo fr a b ↔ ∃ ua ∈ colOf fr a, ∃ ub ∈ colOf fr b,
      col = ("SUBFEATURE|" ++ a ++ "|" ++ b ++ "-" ++ ua ++ "&" ++ ub, twoSidedCol (colOf fr a) (colOf fr b) ua ub) := by
  simp only [subTwo, List.mem_flatMap, List.mem_map, mem_uniq]
  constructor
  · rintro ⟨ub, hub, ua, hua, rfl⟩; exact ⟨ua, hua, ub, hub, rfl⟩
  · rintro ⟨ua, hua, ub, hub, rfl⟩; exact ⟨ub, hub, ua, hua, rfl⟩

theorem interCol_length (h64 : String → String) (fr : Frame) (combo : List String) :
    (interCol h64 fr combo).length = nrows fr := by simp [interCol, rowTuples_length]

theorem mem_interBlock {h64 : String → String} {fr : Frame} {is3mr : Bool} {sel : List (List String)} {col : Column}
    (h : col ∈ interBlock h64 fr is3mr sel) :
    ∃ combo ∈ sel, col = ((joinStr is3mr).intercalate combo, interCol h64 fr combo) := by
  obtain ⟨combo, hc, rfl⟩ := List.mem_map.mp (mem_dictOfList h)
  exact ⟨combo, hc, rfl⟩

theorem mem_candidates {label : String} {order : Nat} {is3mr : Bool} {fr : Frame} {combo : List String}
    (h : combo ∈ candidates label order is3mr fr) :
    combo.Sublist ((names fr).filter (fun c => c ≠ label)) ∧ combo.length = (if is3mr then 2 else order) := by
  unfold candidates at h
  by_cases ho : order > 1
  · rw [if_pos ho] at h; exact combos_mem h
  · rw [if_neg ho] at h; cases h

theorem length_filter_lt_of_imp {α : Type} {p q : α → Bool} {l : List α} (h : ∀ a ∈ l, p a = true → q a = true)
    {w : α} (hw : w ∈ l) (hq : q w = true) (hp : p w = false) : (l.filter p).length < (l.filter q).length := by
  have e : l.filter p = (l.filter q).filter p := by
    rw [List.filter_filter]
    exact List.filter_congr fun a ha => by cases hpa : p a <;> simp [h a ha, hpa]
  rw [e]
  exact List.length_filter_lt_length_iff_exists.mpr ⟨w, List.mem_filter.mpr ⟨hw, hq⟩, by simp [hp]⟩

end Construct
