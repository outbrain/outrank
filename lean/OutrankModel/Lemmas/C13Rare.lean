import OutrankModel.Model.C13
import OutrankModel.Lemmas.ListAux
/-!
Helper lemmas for C13, rare-value part: the invariant of the (repaired) `compute_value_counts` over any sequence of batches.
Apart from `nodup` the invariant speaks of one key at a time (`MInv.dichotomy`).  Core Lean only.
-/
namespace C13
open ListAux
variable {R K : Type} [DecidableEq K]

/-- invariant in the middle of a batch: `H0` = keys of the completed batches, `B` = keys of the current batch consumed so far.
`retired` asks for an occurrence because `thr` may be negative: a key that never occurred is not retired. -/
structure MInv (thr : Int) (H0 B : List K) (s : Rare K) : Prop where
  nodup : s.keys.Nodup
  keys : ∀ k, k ∈ s.keys ↔ 0 < s.cnt k
  retired : ∀ k, k ∈ s.retired ↔ 0 < H0.count k ∧ thr < (H0.count k : Int)
  cnt : ∀ k, s.cnt k = if k ∈ s.retired then 0 else (H0 ++ B).count k

theorem minv_empty (thr : Int) : MInv thr ([] : List K) [] Rare.empty :=
  ⟨List.nodup_nil, by simp [Rare.empty], by simp [Rare.empty], by simp [Rare.empty]⟩

/-- a key is either retired (its total had passed the bound at an earlier batch boundary, its count is 0) or counted exactly -/
theorem MInv.dichotomy {thr : Int} {H0 B : List K} {s : Rare K} (h : MInv thr H0 B s) (k : K) :
    (k ∈ s.retired ∧ s.cnt k = 0 ∧ 0 < H0.count k ∧ thr < (H0.count k : Int)) ∨
    (k ∉ s.retired ∧ s.cnt k = (H0 ++ B).count k ∧ ¬(0 < H0.count k ∧ thr < (H0.count k : Int))) := by
  have hc := h.cnt k
  by_cases hr : k ∈ s.retired
  · rw [if_pos hr] at hc; exact Or.inl ⟨hr, hc, (h.retired k).1 hr⟩
  · rw [if_neg hr] at hc; exact Or.inr ⟨hr, hc, (not_congr (h.retired k)).1 hr⟩

theorem MInv.count1 {thr : Int} {H0 B : List K} {s : Rare K} (h : MInv thr H0 B s) (k : K) :
    MInv thr H0 (B ++ [k]) (s.count1 k) := by
  unfold Rare.count1
  split
  · next hk =>
    -- a retired key is ignored, and it is none of the keys still counted
    refine ⟨h.nodup, h.keys, h.retired, fun x => ?_⟩
    rw [h.cnt x, ← List.append_assoc, count_concat]
    split
    · rfl
    · next hx => rw [if_neg fun e : x = k => hx (e ▸ hk)]
  · next hk =>
    refine ⟨nodup_insertLast h.nodup k, mem_insertLast_iff_pos h.keys k, h.retired, fun x => ?_⟩
    show (if x = k then s.cnt x + 1 else s.cnt x) = if x ∈ s.retired then 0 else (H0 ++ (B ++ [k])).count x
    rw [h.cnt x, ← List.append_assoc, count_concat]
    by_cases hxk : x = k
    · subst hxk; rw [if_pos rfl, if_neg hk, if_neg hk, if_pos rfl]
    · simp only [hxk, if_false]

omit [DecidableEq K] in
theorem Rare.retire_cnt (thr : Int) (s : Rare K) (k : K) :
    (s.retire thr).cnt k = if thr < (s.cnt k : Int) then 0 else s.cnt k :=
  rfl

omit [DecidableEq K] in
theorem Rare.mem_retire_keys {thr : Int} {s : Rare K} {k : K} :
    k ∈ (s.retire thr).keys ↔ k ∈ s.keys ∧ ¬thr < (s.cnt k : Int) := by
  simp [Rare.retire]

omit [DecidableEq K] in
theorem Rare.mem_retire_retired {thr : Int} {s : Rare K} {k : K} :
    k ∈ (s.retire thr).retired ↔ k ∈ s.retired ∨ k ∈ s.keys ∧ thr < (s.cnt k : Int) := by
  simp [Rare.retire]

theorem MInv.retire {thr : Int} {H0 B : List K} {s : Rare K} (h : MInv thr H0 B s) :
    MInv thr (H0 ++ B) [] (s.retire thr) := by
  refine ⟨h.nodup.filter _, fun k => ?_, fun k => ?_, fun k => ?_⟩
  · rw [Rare.mem_retire_keys, Rare.retire_cnt, h.keys k]
    split <;> simp [*]
  · rw [Rare.mem_retire_retired, h.keys k]
    rcases h.dichotomy k with ⟨hr, _, hp, hlt⟩ | ⟨hr, hc, _⟩
    · simp only [hr, true_or, true_iff, List.count_append]
      exact ⟨Nat.lt_of_lt_of_le hp (Nat.le_add_right _ _), Int.lt_of_lt_of_le hlt (Int.ofNat_le.2 (Nat.le_add_right _ _))⟩
    · simp only [hr, false_or, hc]
  · have hm := Rare.mem_retire_retired (thr := thr) (s := s) (k := k)
    rw [List.append_nil, Rare.retire_cnt]
    rcases h.dichotomy k with ⟨hr, hc, _⟩ | ⟨hr, hc, _⟩
    · rw [if_pos (hm.2 (Or.inl hr)), hc, ite_self]
    · rw [← hc]
      by_cases hlt : thr < (s.cnt k : Int)
      · rw [if_pos hlt]
        by_cases hp : 0 < s.cnt k
        · rw [if_pos (hm.2 (Or.inr ⟨(h.keys k).2 hp, hlt⟩))]
        · rw [Nat.eq_zero_of_not_pos hp, ite_self]
      · rw [if_neg hlt, if_neg fun hin => (hm.1 hin).elim hr fun h => hlt h.2]

theorem count_batchKeys_append (cols : List (R → K)) (a b : List R) (k : K) :
    (batchKeys cols (a ++ b)).count k = (batchKeys cols a).count k + (batchKeys cols b).count k := by
  simp only [batchKeys, List.count_flatMap, Function.comp_def, List.map_append, List.count_append, sum_map_add]

theorem MInv.congr {thr : Int} {H H' B : List K} {s : Rare K} (hc : ∀ k, H.count k = H'.count k) (h : MInv thr H B s) :
    MInv thr H' B s :=
  ⟨h.nodup, h.keys, fun k => by rw [← hc]; exact h.retired k,
    fun k => by rw [h.cnt k, List.count_append, List.count_append, hc]⟩

/-- The history is the key list of all consumed rows, column by column: batch after batch the code visits a permutation of it. -/
theorem minv_rareRun (thr : Int) (cols : List (R → K)) (batches : List (List R)) :
    MInv thr (batchKeys cols batches.flatten) [] (rareRun thr cols batches) :=
  foldl_hist (P := fun bs s => MInv thr (batchKeys cols bs.flatten) [] s)
    (by rw [List.flatten_nil, show batchKeys cols ([] : List R) = [] from List.flatMap_eq_nil_iff.2 fun _ _ => rfl]
        exact minv_empty thr)
    (fun bs s b h =>
      (foldl_hist (P := MInv thr _) h (fun _ _ k h => h.count1 k) (batchKeys cols b)).retire.congr fun k => by
        rw [List.count_append, List.flatten_append, count_batchKeys_append, List.flatten_singleton]) batches

theorem MInv.report_perm {thr : Int} {H : List K} {s : Rare K} (h : MInv thr H [] s) :
    s.report.Perm (rareSpec thr H) := by
  -- per key: tracked iff it occurs with a total within the bound, and then counted exactly
  have key : ∀ k, (k ∈ s.keys ↔ 0 < H.count k ∧ (H.count k : Int) ≤ thr) ∧ (k ∈ s.keys → s.cnt k = H.count k) := by
    intro k
    rw [h.keys k]
    rcases h.dichotomy k with ⟨_, hc, hp⟩ | ⟨_, hc, hn⟩
    · rw [hc]
      exact ⟨⟨fun h => absurd h (Nat.lt_irrefl 0), fun h => absurd hp.2 (Int.not_lt.2 h.2)⟩,
        fun h => absurd h (Nat.lt_irrefl 0)⟩
    · rw [List.append_nil] at hc
      rw [hc]
      exact ⟨⟨fun hp => ⟨hp, Int.not_lt.1 fun hlt => hn ⟨hp, hlt⟩⟩, And.left⟩, fun _ => rfl⟩
  have hperm : s.keys.Perm (H.eraseDups.filter fun k => decide ((H.count k : Int) ≤ thr)) :=
    (List.perm_ext_iff_of_nodup h.nodup ((nodup_eraseDups H).filter _)).2 fun k => by
      rw [List.mem_filter, List.mem_eraseDups, decide_eq_true_iff, ← List.count_pos_iff (l := H)]
      exact (key k).1
  rw [show s.report = s.keys.map fun k => (k, H.count k) from
    List.map_congr_left fun k hk => by rw [(key k).2 hk]]
  exact hperm.map _

end C13
