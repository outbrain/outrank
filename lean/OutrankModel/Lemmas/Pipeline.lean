import OutrankModel.Model.Pipeline
import OutrankModel.Lemmas.StreamLoop
import OutrankModel.Lemmas.StreamSched
import OutrankModel.Lemmas.C05
import OutrankModel.Lemmas.C06
import OutrankModel.Props.C16
/-!
Helper lemmas for Props/Pipeline.lean (DESIGN §11.2): glue between the per-property lemma files (a pipeline batch is C09's
`canonRows`, a rendered line parses back by C16's round trip, the two key orders are linear), and the toy arithmetic `Toy.arith`
over which the examples of Props/Pipeline and Props/PipelineSummary evaluate.  Core Lean only.
-/
namespace Pipeline
open Stream

section Rows
variable {ν σ : Type}

/-- re-association of a C06 triple, for any name type -/
def keyedG (t : ν × ν × σ) : (ν × ν) × σ := ((t.1, t.2.1), t.2.2)

theorem mirror_keyed (tr : List (ν × ν × σ)) : (C06.mirror tr).map keyedG = Stream.mirror tr := by
  simp [C06.mirror, Stream.mirror, keyedG, List.map_flatMap]

end Rows

theorem keyed_eq : @keyed = @keyedG String := rfl

theorem frame_names (cols : List String) (rows : List (List C16.Str)) : (frame cols rows).map (·.1) = cols := by
  rw [frame, List.map_map]
  exact List.zipIdx_map_fst 0 cols

theorem frame_column_length (cols : List String) (rows : List (List C16.Str)) (c : String) (hc : c ∈ cols) :
    (C05.column (frame cols rows) c).length = rows.length := by
  unfold C05.column frame
  generalize 0 = n
  induction cols generalizing n with
  | nil => cases hc
  | cons a t ih =>
    rw [List.zipIdx_cons, List.map_cons, List.lookup_cons]
    cases h : c == a
    · exact ih ((List.mem_cons.mp hc).resolve_left (beq_eq_false_iff_ne.mp h)) _
    · simp

theorem parseLine_render (ncols : Nat) (quote : Nat → Bool) (row : List C16.Str)
    (hcells : ∀ x ∈ row, ∀ ch ∈ x, C16.isNL ch = false) (term : C16.Str) (hterm : ∀ ch ∈ term, C16.isNL ch = true) :
    parseLine ncols (C16.renderRow quote row ++ term) = (row.length == ncols, row) := by
  simp [parseLine, C16.csvParseD, C16.csv_roundtrip quote row hcells term hterm]

theorem map_zipIdx_of_fst {β γ : Type} (l : List β) (n : Nat) (F : β × Nat → γ) (g : β → γ)
    (h : ∀ p ∈ l.zipIdx n, F p = g p.1) : (l.zipIdx n).map F = l.map g := by
  rw [List.map_congr_left h]
  conv => rhs; rw [← List.zipIdx_map_fst n l, List.map_map]
  rfl

section Batch
variable {α σ : Type}

/-- a batch's rows are C09's `canonRows` of the batch's scorer and pair list (`mirror_keyed`) -/
theorem batchRows_eq_canon (ar : Arith α σ) (rules : List (C05.Cond × C05.Callee)) (cn : String) (c : Cfg)
    (hc : c.constant = false) (cols : List String) (rows : List (List C16.Str)) :
    batchRows ar rules cn c cols rows =
      canonRows (scorePair ar rules cn c (C05.codeFrame (frame cols rows))) (pairs c cols) := by
  simp only [batchRows, hc, C06.rows, keyed_eq]
  exact mirror_keyed _

end Batch

/-! ### the fields of the result

Both are `rfl`; they are stated so that proofs can rewrite with them: unifying `(rankFile …).table` with `finalTable _ _`
makes the elaborator's `whnf` run the sort, and with it the line loop, on the variable `lines`. -/
section Result
variable {α σ : Type} (ar : Arith α σ) (rules : List (C05.Cond × C05.Callee)) (cn : String) (c : Cfg)
  (header : C16.Str) (lines : List C16.Str)

theorem rankFile_grouped : (rankFile ar rules cn c header lines).grouped = aggregate keyLe ar.ord
    ((run c.stream (parsedLines header lines)).batches.map (batchRows ar rules cn c (headerCols header))).flatten := by
  simp only [rankFile, rankRows]

theorem rankFile_table : (rankFile ar rules cn c header lines).table
    = finalTable ar.ord (rankFile ar rules cn c header lines).grouped := by
  simp only [rankFile, rankRows]

end Result

theorem nameLe_linOrd : LinOrd C06.nameLe :=
  LinOrd.of_le String.toList (fun _ _ => String.toList_inj.mp) (by simp [C06.nameLe])

theorem keyLe_linOrd : LinOrd keyLe :=
  LinOrd.lex String.toList (fun _ _ => String.toList_inj.mp) nameLe_linOrd (by simp [keyLe])

/-! ### a toy arithmetic for kernel-evaluated examples (`max-value-coverage` scores are exact fractions) -/
namespace Toy

def natMI : MI.Ops Nat := ⟨0, (· + ·), (· - ·), (· * ·), (· / ·), id, id, id⟩

def ratEmb : C05.Score Nat → Rat
  | .exact q => q
  | _ => 0

def arith : Arith Nat Rat := ⟨natMI, Stream.ratOps, ratEmb⟩

end Toy

end Pipeline
