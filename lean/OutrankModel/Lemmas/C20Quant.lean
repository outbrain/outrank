import Mathlib.Tactic.Linarith
import Mathlib.Algebra.Order.Field.Rat
import OutrankModel.Model.C20
/-!
C20-3: numpy's linear-interpolation percentile on pairwise distinct (sorted) values, exact over ℚ.
-/
namespace C20.Quant

/-- in a strictly increasing list the values `≤ cut` are a prefix: `k + 1` of them when `s[k] ≤ cut < s[k+1]` -/
theorem count_prefix {s : List Rat} (hs : s.Pairwise (· < ·)) {k : Nat} (hk : k < s.length) {cut : Rat}
    (h1 : s[k] ≤ cut) (h2 : ∀ (hj : k + 1 < s.length), cut < s[k + 1]) :
    (s.filter fun x => decide (x ≤ cut)).length = k + 1 := by
  have hmono : ∀ (i j : Nat) (hj : j < s.length) (hij : i ≤ j), s[i]'(Nat.lt_of_le_of_lt hij hj) ≤ s[j] := fun i j hj hij =>
    (Nat.lt_or_eq_of_le hij).elim (fun h => (List.pairwise_iff_getElem.mp hs i j _ hj h).le) (fun h => by subst h; exact le_refl _)
  have hA : (s.take (k + 1)).filter (fun x => decide (x ≤ cut)) = s.take (k + 1) :=
    List.filter_eq_self.mpr fun x hx => by
      obtain ⟨i, hi, rfl⟩ := List.mem_take_iff_getElem.mp hx
      exact decide_eq_true ((hmono i k hk (Nat.le_of_lt_succ (Nat.lt_of_lt_of_le hi (Nat.min_le_left _ _)))).trans h1)
  have hB : (s.drop (k + 1)).filter (fun x => decide (x ≤ cut)) = [] :=
    List.filter_eq_nil_iff.mpr fun x hx => by
      obtain ⟨i, hi, rfl⟩ := List.mem_drop_iff_getElem.mp hx
      rw [decide_eq_true_eq, not_le]
      exact (h2 (Nat.lt_of_le_of_lt (Nat.le_add_left _ _) hi)).trans_le (hmono (k + 1) (k + 1 + i) (Nat.add_comm i _ ▸ hi) (Nat.le_add_right _ _))
  rw [← List.take_append_drop (k + 1) s, List.filter_append, hA, hB, List.append_nil, List.length_take, Nat.min_eq_left hk]

theorem interp_mem (a b t : Rat) (hab : a < b) (h0 : 0 ≤ t) (h1 : t < 1) :
    a ≤ a + t * (b - a) ∧ a + t * (b - a) < b :=
  ⟨le_add_of_nonneg_right (mul_nonneg h0 (sub_nonneg.mpr hab.le)),
    lt_sub_iff_add_lt'.mp ((mul_lt_mul_of_pos_right h1 (sub_pos.mpr hab)).trans_eq (one_mul _))⟩

theorem floor_mul_mem (m : Int) (q : Rat) (hm : 0 ≤ m) (h0 : 0 ≤ q) (h1 : q ≤ 1) :
    0 ≤ ((m : Rat) * q).floor ∧ ((m : Rat) * q).floor ≤ m :=
  have hm' : (0 : Rat) ≤ m := Rat.intCast_nonneg.mpr hm
  ⟨Rat.le_floor_iff.mpr (Int.cast_zero.trans_le (mul_nonneg hm' h0)),
    Int.cast_le.mp ((Rat.floor_le _).trans (mul_le_of_le_one_right hm' h1))⟩

/-- **#{d ≤ cut_q} = ⌊(n-1) q⌋ + 1** for pairwise distinct sorted values -/
theorem count_le_percentile (s : List Rat) (hs : s.Pairwise (· < ·)) (hn : 0 < s.length) (q : Rat) (h0 : 0 ≤ q) (h1 : q ≤ 1) :
    ∃ cut, percentile s q = some cut ∧
      ((s.filter fun x => decide (x ≤ cut)).length : Int) = ((((s.length : Int) - 1 : Int) : Rat) * q).floor + 1 := by
  obtain ⟨hf0, hf1⟩ := floor_mul_mem ((s.length : Int) - 1) q (by omega) h0 h1
  unfold percentile
  generalize (((s.length : Int) - 1 : Int) : Rat) * q = h at hf0 hf1 ⊢
  -- `lo = ⌊h⌋` as an index; the virtual index `h` lies in `[lo, lo + 1)`
  obtain ⟨lo, hlo⟩ : ∃ lo : Nat, h.floor = lo := ⟨_, (Int.toNat_of_nonneg hf0).symm⟩
  have hfl : ((lo : Int) : Rat) ≤ h := hlo ▸ Rat.floor_le h
  have hfu : h < ((lo : Int) : Rat) + 1 := by have := Rat.lt_floor_add_one h; rwa [hlo, Int.cast_add, Int.cast_one] at this
  have hlt : lo < s.length := by omega
  simp only [hlo, Int.toNat_natCast, List.getElem?_eq_getElem hlt]
  by_cases hb : lo + 1 < s.length
  · obtain ⟨i1, i2⟩ := interp_mem s[lo] s[lo + 1] (h - ((lo : Int) : Rat))
      (List.pairwise_iff_getElem.mp hs lo (lo + 1) hlt hb (Nat.lt_succ_self lo)) (sub_nonneg.mpr hfl) (sub_lt_iff_lt_add'.mpr hfu)
    simp only [List.getElem?_eq_getElem hb]
    exact ⟨_, rfl, by rw [count_prefix hs hlt i1 fun _ => i2]; rfl⟩
  · simp only [List.getElem?_eq_none (Nat.le_of_not_lt hb)]
    exact ⟨_, rfl, by rw [count_prefix hs hlt (le_refl _) fun hj => absurd hj hb]; rfl⟩

/-- `below x = ⌊(n-1) x⌋ + 1` against the share `x n`: the difference lies in `(-x, 1 - x]` -/
theorem below_sub (n : Nat) (x : Rat) :
    -x < (((((n : Int) - 1 : Int) : Rat) * x).floor + 1 : Int) - x * n ∧
      (((((n : Int) - 1 : Int) : Rat) * x).floor + 1 : Int) - x * n ≤ 1 - x := by
  have fl := Rat.floor_le ((((n : Int) - 1 : Int) : Rat) * x)
  have fu := Rat.lt_floor_add_one ((((n : Int) - 1 : Int) : Rat) * x)
  generalize ((((n : Int) - 1 : Int) : Rat) * x).floor = f at fl fu ⊢
  simp only [Int.cast_add, Int.cast_one, Int.cast_sub, Int.cast_natCast] at fl fu ⊢
  constructor <;> linarith

/-- the class-size estimates from the two `below_sub` intervals, `a = below q`, `b = below q'`, `m = n` -/
theorem bounds_aux (q q' m a b : Rat) (h0 : 0 ≤ q) (hqq : q ≤ q') (h1 : q' ≤ 1)
    (a1 : -q < a - q * m) (a2 : a - q * m ≤ 1 - q) (b1 : -q' < b - q' * m) (b2 : b - q' * m ≤ 1 - q') :
    (a - q * m ≤ 1 ∧ -1 < a - q * m) ∧ (b - a - (q' - q) * m < 2 ∧ -2 < b - a - (q' - q) * m) ∧
    (m - b - (1 - q') * m ≤ 1 ∧ -1 ≤ m - b - (1 - q') * m) :=
  ⟨⟨a2.trans (sub_le_self 1 h0), (neg_le_neg (hqq.trans h1)).trans_lt a1⟩, ⟨by linarith, by linarith⟩, by linarith, by linarith⟩

theorem class_size_bounds (n : Nat) (hn : 0 < n) (q q' : Rat) (h0 : 0 ≤ q) (hqq : q ≤ q') (h1 : q' ≤ 1) :
    let below (x : Rat) : Int := ((((n : Int) - 1 : Int) : Rat) * x).floor + 1
    (((below q : Int) : Rat) - q * n ≤ 1 ∧ -1 < ((below q : Int) : Rat) - q * n) ∧
    ((((below q' - below q : Int) : Rat) - (q' - q) * n < 2) ∧ (-2 < ((below q' - below q : Int) : Rat) - (q' - q) * n)) ∧
    (((n - below q' : Int) : Rat) - (1 - q') * n ≤ 1 ∧ -1 ≤ ((n - below q' : Int) : Rat) - (1 - q') * n) := by
  intro below
  simp only [Int.cast_sub, Int.cast_natCast]
  exact bounds_aux q q' n (below q) (below q') h0 hqq h1 (below_sub n q).1 (below_sub n q).2 (below_sub n q').1 (below_sub n q').2

end C20.Quant
