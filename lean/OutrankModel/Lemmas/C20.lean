import OutrankModel.Model.C20
import OutrankModel.Lemmas.C19
import OutrankModel.Lemmas.ListAux
/-!
The list-level models of C20 function by function (core Lean only): row selection, the self-description, the two kinds
of noise, down-sampling.  Each per-column noise fact is an invariant of the fold over the drawn positions: `FlipInv`
through `ListAux.foldl_hist` for the categorical flips, `foldl_set_marker` for the missing-value marker.
-/
namespace C20
open C19 (Rng Err)
variable {σ : Type}

theorem mem_sortDedup (l : List Int) (x : Int) : x ∈ sortDedup l ↔ x ∈ l := by
  unfold sortDedup
  rw [List.mem_eraseDups]
  exact (Srt.isort_perm _ l).mem_iff

theorem sortDedup_nodup (l : List Int) : (sortDedup l).Nodup := ListAux.nodup_eraseDups _

theorem mapM_rows {α β : Type} {f : α → Option β} {l : List α} {m : List β} (h : l.mapM f = some m) :
    m.length = l.length ∧ ∀ (i : Nat) (a : α), l[i]? = some a → ∃ b, f a = some b ∧ m[i]? = some b := by
  rw [ListAux.mapM_eq_some] at h
  refine ⟨by simpa using (congrArg List.length h).symm, fun i a hi => ?_⟩
  have := congrArg (·[i]?) h
  simp only [List.getElem?_map, hi, Option.map_some] at this
  obtain ⟨b, hb, hfb⟩ := Option.map_eq_some_iff.mp this.symm
  exact ⟨b, hfb.symm, hb⟩

theorem selectCols_spec {row : List Int} {idx : List Nat} {s : List Int} (h : selectCols row idx = some s) :
    s.length = idx.length ∧ ∀ (j c : Nat), idx[j]? = some c → s[j]? = row[c]? ∧ c < row.length := by
  obtain ⟨h1, h2⟩ := mapM_rows h
  refine ⟨h1, fun j c hj => ?_⟩
  obtain ⟨b, hb, hs⟩ := h2 j c hj
  exact ⟨hs.trans hb.symm, (List.getElem?_eq_some_iff.mp hb).1⟩

/-- the rows of `duplicates` (`g row s = row ++ s`) and `combinationLinear` (`g row s = row ++ [s.sum]`) -/
theorem mapM_selectCols {g : List Int → List Int → List Int} {X X' : Mat} {idx : List Nat}
    (h : X.mapM (fun row => (selectCols row idx).map (g row)) = some X') :
    X'.length = X.length ∧ ∀ (i : Nat) (row : List Int), X[i]? = some row →
      ∃ s, selectCols row idx = some s ∧ X'[i]? = some (g row s) := by
  obtain ⟨h1, h2⟩ := mapM_rows h
  refine ⟨h1, fun i row hi => ?_⟩
  obtain ⟨b, hb, hbi⟩ := h2 i row hi
  obtain ⟨s, hs, rfl⟩ := Option.map_eq_some_iff.mp hb
  exact ⟨s, hs, hbi⟩

theorem duplicates_ok {X : Mat} {idx : List Nat} {X' : Mat} {info : DupInfo} (h : duplicates X idx = .ok (X', info)) :
    ∃ r0 rest, X = r0 :: rest ∧ X.mapM (fun row => (selectCols row idx).map fun s => row ++ s) = some X' ∧
      info = ⟨idx, List.range' r0.length idx.length⟩ := by
  unfold duplicates at h
  split at h
  · cases h
  · split at h <;> cases h
    exact ⟨_, _, rfl, ‹_›, rfl⟩

theorem step_added (s : Nat × Info) (op : Op) :
    ∃ k, (step s op).1 = s.1 + k ∧ (step s op).2.added.Perm (s.2.added ++ List.range' s.1 k) := by
  cases op with
  | comb idx =>
    refine ⟨1, rfl, ?_⟩
    simp only [step, Info.added, List.map_append, List.map_cons, List.map_nil, List.range'_one, List.append_assoc]
    exact ((List.perm_append_comm_assoc _ _ _).trans (List.perm_append_comm.append_left _)).append_left _
  | corr idx =>
    refine ⟨idx.length, rfl, ?_⟩
    simp only [step, Info.added, List.flatMap_append, List.flatMap_cons, List.flatMap_nil, List.append_nil, List.append_assoc]
    exact (List.perm_append_comm.append_left _).append_left _
  | dup idx =>
    refine ⟨idx.length, rfl, ?_⟩
    simp only [step, Info.added, List.flatMap_append, List.flatMap_cons, List.flatMap_nil, List.append_nil, List.append_assoc]
    exact List.Perm.refl _

theorem run_added (w0 : Nat) (ops : List Op) :
    ∃ n, (runOps w0 ops).1 = w0 + n ∧ (runOps w0 ops).2.added.Perm (List.range' w0 n) :=
  ListAux.foldl_hist (P := fun _ s => ∃ n, s.1 = w0 + n ∧ s.2.added.Perm (List.range' w0 n)) ⟨0, rfl, .refl _⟩
    (fun _ s op ⟨n, hw, h⟩ =>
      have ⟨k, hk1, hk2⟩ := step_added s op
      ⟨n + k, by rw [hk1, hw, Nat.add_assoc], hk2.trans (by rw [← List.range'_append_1, ← hw]; exact h.append_right _)⟩) ops

theorem countDiff_self {α : Type} [DecidableEq α] (a : List α) : countDiff a a = 0 := by
  induction a with
  | nil => simp [countDiff]
  | cons x a ih => simp [countDiff, ih]

theorem countDiff_set_le {α : Type} [DecidableEq α] {a b : List α} {i : Nat} {v : α} :
    countDiff a (b.set i v) ≤ countDiff a b + 1 := by
  induction a generalizing b i with
  | nil => exact Nat.zero_le _
  | cons x a ih =>
    cases b with
    | nil => exact Nat.zero_le _
    | cons y b =>
      cases i with
      | zero =>
        rw [List.set_cons_zero, countDiff, countDiff, Nat.add_comm _ (countDiff a b)]
        exact Nat.add_le_add (Nat.le_add_left _ _) (by split <;> decide)
      | succ i =>
        rw [List.set_cons_succ, countDiff, countDiff, Nat.add_assoc]
        exact Nat.add_le_add_left ih _

theorem uniqOf_subset {y col : List Int} {l x : Int} (h : x ∈ uniqOf y col l) : x ∈ col := by
  unfold uniqOf at h
  rw [mem_sortDedup] at h
  obtain ⟨p, hp, rfl⟩ := List.mem_map.mp h
  exact (List.of_mem_zip (List.mem_filter.mp hp).1).2

theorem candidates_subset {y col labels : List Int} {cur x : Int} (h : x ∈ candidates y col labels cur) :
    x ∈ col := by
  unfold candidates at h
  have h1 := (List.mem_filter.mp h).1
  rw [mem_sortDedup] at h1
  obtain ⟨l, _, hl⟩ := List.mem_flatMap.mp h1
  exact uniqOf_subset hl

theorem fallbackVals_subset {y col0 labels : List Int} {cur : Int} {k : Nat} {x : Int}
    (h : x ∈ fallbackVals y col0 labels cur k) : x ∈ col0 := by
  unfold fallbackVals at h
  split at h
  · exact uniqOf_subset h
  · simp at h

/-- the invariant of one flip: same length, at most one more differing cell, values stay inside the feature's own values -/
def FlipInv (col0 : List Int) (before after : List Int) : Prop :=
  after.length = before.length ∧ countDiff col0 after ≤ countDiff col0 before + 1 ∧
  ((∀ v ∈ before, v ∈ col0) → ∀ v ∈ after, v ∈ col0)

theorem flipInv_refl {col0 l : List Int} : FlipInv col0 l l := ⟨rfl, Nat.le_succ _, fun h => h⟩

theorem flipInv_apply {col0 l : List Int} {i : Nat} {d : List Int} (hd : ∀ v ∈ d, v ∈ col0) :
    FlipInv col0 l (applyDraw l i d) := by
  unfold applyDraw
  split
  · refine ⟨by simp, countDiff_set_le, fun h x hx => ?_⟩
    rcases List.mem_or_eq_of_mem_set hx with hx | rfl
    · exact h x hx
    · exact hd _ (by simp)
  · exact flipInv_refl

theorem flipInv_draw {R : Rng σ} (hR : R.WF) {col0 l : List Int} {i : Nat} {st : σ} {dom : List Int}
    (hne : ¬ dom.isEmpty = true) (hsub : ∀ v ∈ dom, v ∈ col0) : FlipInv col0 l (applyDraw l i (R.choiceP st dom 1).1) :=
  flipInv_apply fun v hv => hsub v ((hR.cp st dom 1 (mt List.isEmpty_iff.mpr hne)).2 v hv)

theorem flipAt_inv {R : Rng σ} (hR : R.WF) {y col0 labels : List Int} {i : Nat} {cur : Int} {acc : List Int × σ} :
    FlipInv col0 acc.1 (flipAt R y col0 labels i cur acc).1 := by
  unfold flipAt
  split
  · dsimp only
    split
    · exact flipInv_refl
    · exact flipInv_draw hR ‹_› fun _ => fallbackVals_subset
  · exact flipInv_draw hR ‹_› fun _ => candidates_subset

theorem flipOne_inv {R : Rng σ} (hR : R.WF) (y col0 labels : List Int) (inds : List Nat) (acc : List Int × σ) (s : Int) :
    FlipInv col0 acc.1 (flipOne R y col0 labels inds acc s).1 := by
  unfold flipOne
  split
  · exact flipInv_refl
  · split
    · exact flipInv_refl
    · exact flipAt_inv hR

theorem noiseCatCol_spec {R : Rng σ} (hR : R.WF) (y : List Int) (inds : List Nat) (nflip : Nat) (hn : nflip ≤ y.length)
    (col : List Int) (st : σ) :
    (noiseCatCol R y inds nflip col st).1.length = col.length ∧
    countDiff col (noiseCatCol R y inds nflip col st).1 ≤ nflip ∧
    ∀ v ∈ (noiseCatCol R y inds nflip col st).1, v ∈ col := by
  unfold noiseCatCol
  have hlen := (hR.cnr st 0 y.length nflip hn).1
  generalize R.choiceNoRep st 0 y.length nflip = d at hlen ⊢
  -- one flip per drawn position: after the positions `hist` at most `hist.length` cells differ
  have := ListAux.foldl_hist (step := flipOne R y col (sortDedup y) inds) (init := (col, d.2))
    (P := fun hist acc => acc.1.length = col.length ∧ countDiff col acc.1 ≤ hist.length ∧ ∀ v ∈ acc.1, v ∈ col)
    ⟨rfl, Nat.le_of_eq (countDiff_self col), fun _ hv => hv⟩
    (fun hist acc s ⟨h1, h2, h3⟩ =>
      have ⟨g1, g2, g3⟩ := flipOne_inv hR y col (sortDedup y) inds acc s
      ⟨g1.trans h1, List.length_append ▸ Nat.le_trans g2 (Nat.add_le_add_right h2 1), g3 h3⟩) d.1
  rwa [hlen] at this

theorem mapCols_all2 {α : Type} (f : α → σ → α × σ) (cs : List α) (st : σ) :
    C19.All2 (fun c c' => ∃ st', c' = (f c st').1) cs (mapCols f cs st).1 := by
  induction cs generalizing st with
  | nil => exact .nil
  | cons c cs ih => exact .cons ⟨st, rfl⟩ (ih _)

theorem foldl_set_marker {α : Type} [DecidableEq α] (m : α) (ixs : List Nat) (l : List α) (hnd : ixs.Nodup)
    (hlt : ∀ s ∈ ixs, s < l.length) (hfree : ∀ s ∈ ixs, l[s]? ≠ some m) :
    (ixs.foldl (fun c s => c.set s m) l).length = l.length ∧
    (ixs.foldl (fun c s => c.set s m) l).count m = l.count m + ixs.length ∧
    ∀ i : Nat, (ixs.foldl (fun c s => c.set s m) l)[i]? = some m ∨ (ixs.foldl (fun c s => c.set s m) l)[i]? = l[i]? := by
  induction ixs generalizing l with
  | nil => exact ⟨rfl, rfl, fun _ => .inr rfl⟩
  | cons s ixs ih =>
    rw [List.nodup_cons] at hnd
    have hs := hlt s List.mem_cons_self
    have hne : (l[s] == m) = false := beq_false_of_ne fun e => hfree s List.mem_cons_self (by rw [List.getElem?_eq_getElem hs, e])
    obtain ⟨h1, h2, h3⟩ := ih (l.set s m) hnd.2 (fun t ht => (List.length_set (as := l)).symm ▸ hlt t (List.mem_cons_of_mem _ ht))
      (fun t ht => by rw [List.getElem?_set_ne (fun (e : s = t) => hnd.1 (e ▸ ht))]; exact hfree t (List.mem_cons_of_mem _ ht))
    rw [List.foldl_cons]
    refine ⟨h1.trans List.length_set, ?_, fun i => (h3 i).elim Or.inl fun h => ?_⟩
    · rw [h2, List.count_set hs, hne, beq_self_eq_true, if_neg Bool.false_ne_true, if_pos rfl, Nat.sub_zero, List.length_cons,
        Nat.add_assoc, Nat.add_comm 1]
    · by_cases his : s = i
      · exact Or.inl (by rw [h, his, List.getElem?_set_self (his ▸ hs)])
      · exact Or.inr (by rw [h, List.getElem?_set_ne his])

theorem noiseMissingCol_spec {α : Type} [DecidableEq α] {R : Rng σ} (hR : R.WF) (marker : α) (nmiss : Nat)
    (col : List α) (hn : nmiss ≤ col.length) (hfree : marker ∉ col) (st : σ) :
    (noiseMissingCol R marker nmiss col st).1.length = col.length ∧
    (noiseMissingCol R marker nmiss col st).1.count marker = nmiss ∧
    ∀ (i : Nat), (noiseMissingCol R marker nmiss col st).1[i]? = some marker ∨
      (noiseMissingCol R marker nmiss col st).1[i]? = col[i]? := by
  obtain ⟨hlen, hnd, hrange⟩ := hR.cnr st 0 col.length nmiss hn
  simp only [noiseMissingCol]
  rw [← List.foldl_map (f := Int.toNat) (g := fun (c : List α) s => c.set s marker)]
  generalize (R.choiceNoRep st 0 col.length nmiss).1 = d at hlen hnd hrange
  -- the drawn positions lie in `[0, n)`: `toNat` keeps them distinct
  have hnd' : (d.map Int.toNat).Nodup := ListAux.nodup_map_on hnd fun a ha b hb e => by
    rw [← Int.toNat_of_nonneg (hrange a ha).1, e, Int.toNat_of_nonneg (hrange b hb).1]
  obtain ⟨h1, h2, h3⟩ := foldl_set_marker marker (d.map Int.toNat) col hnd'
    (fun s hs => by
      obtain ⟨x, hx, rfl⟩ := List.mem_map.mp hs
      exact (Int.toNat_lt (hrange x hx).1).mpr (by simpa using (hrange x hx).2))
    (fun s _ e => hfree (List.mem_of_getElem? e))
  exact ⟨h1, by rw [h2, List.count_eq_zero_of_not_mem hfree, List.length_map, hlen, Nat.zero_add], h3⟩

theorem count_flatMap_replicate (labels : List Int) (n : Nat) (l : Int) :
    (labels.flatMap fun l => List.replicate n l).count l = labels.count l * n := by
  rw [List.count_flatMap, ← ListAux.sum_map_ite_eq]
  refine congrArg List.sum (List.map_congr_left fun b _ => ?_)
  rw [Function.comp_apply, List.count_replicate]
  simp only [beq_iff_eq, eq_comm (a := b)]

theorem zip_pairs {α β : Type} (r : α → β → Prop) (n : Nat) {rss : List (List α)} {ls : List β}
    (h : C19.All2 (fun rs l => rs.length = n ∧ ∀ x ∈ rs, r x l) rss ls) :
    rss.flatten.length = (ls.flatMap fun l => List.replicate n l).length ∧
    ∀ p ∈ rss.flatten.zip (ls.flatMap fun l => List.replicate n l), r p.1 p.2 := by
  induction h with
  | nil => simp
  | cons hab _ ih =>
    obtain ⟨h1, h2⟩ := hab
    simp only [List.flatten_cons, List.flatMap_cons]
    refine ⟨by simp [h1, ih.1], fun p hp => ?_⟩
    rw [List.zip_append (by simp [h1])] at hp
    rcases List.mem_append.mp hp with hp | hp
    · have := List.of_mem_zip hp
      rw [(List.mem_replicate.mp this.2).2]; exact h2 _ this.1
    · exact ih.2 p hp

/-- a successful `downsample` returns the unzipped halves of a rearrangement of the (row, label) pairs -/
theorem downsample_ok {R : Rng σ} (hR : R.WF) {st st' : σ} {y : List Int} {n? : Option Nat} {resampled : List Mat}
    {reshuffle : Bool} {Xd : Mat} {yd : List Int} {m : Nat} (hm : minCount y = some m)
    (hlen : resampled.flatten.length = ((sortDedup y).flatMap fun l => List.replicate (n?.getD m) l).length)
    (h : downsample R st y n? resampled reshuffle = .ok ((Xd, yd), st')) :
    n?.getD m ≤ m ∧ ∃ z : List (List Int × Int), z.Perm (resampled.flatten.zip ((sortDedup y).flatMap fun l => List.replicate (n?.getD m) l)) ∧
      Xd = z.map (·.1) ∧ yd = z.map (·.2) := by
  rw [downsample, hm] at h
  dsimp only at h
  obtain ⟨hmn, h⟩ := C19.ok_of_guard h
  refine ⟨Nat.le_of_not_lt hmn, ?_⟩
  cases reshuffle <;> cases h
  · exact ⟨_, .refl _, (List.map_fst_zip (Nat.le_of_eq hlen)).symm, (List.map_snd_zip (Nat.le_of_eq hlen.symm)).symm⟩
  · exact ⟨_, C19.shuffled_perm _ _ (by rw [List.length_zip, ← hlen, Nat.min_self]; exact hR.sh _ _), rfl, rfl⟩

end C20
