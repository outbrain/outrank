import OutrankModel.Model.C19
import OutrankModel.Lemmas.ListAux
/-!
The generator model function by function (core Lean only): what one feature satisfies (`genFeature_ok`), lifted to the
feature list through `All2`; the structure interpreter `place` against the lookup `expectedAttr`; the tape generator is
well-formed; the naive generator in closed form (`naive_eq`).
-/
namespace C19
variable {σ : Type}

theorem ok_of_guard {ε α : Type} {c : Prop} [Decidable c] {e : ε} {x : Except ε α} {w : α}
    (h : (if c then .error e else x) = .ok w) : ¬ c ∧ x = .ok w := by
  split at h
  · cases h
  · exact ⟨‹_›, h⟩

theorem wrap32_id {x : Int} (h0 : -2147483648 ≤ x) (h1 : x < 2147483648) : wrap32 x = x :=
  Int.sub_eq_iff_eq_add.mpr (Int.emod_eq_of_lt (Int.add_nonneg_iff_neg_le.mpr h0) (Int.add_lt_add_right h1 _))

theorem shuffled_perm {α : Type} (pre : List α) (perm : List Nat) (h : perm.Perm (List.range pre.length)) :
    (perm.filterMap fun i => pre[i]?).Perm pre :=
  (h.filterMap _).trans (.of_eq (ListAux.range_filterMap_get pre))

theorem arange_length (lo : Int) (n : Nat) : (arange lo n).length = n := by simp [arange]

theorem mem_arange {lo : Int} {n : Nat} {x : Int} : x ∈ arange lo n ↔ lo ≤ x ∧ x < lo + (n : Int) := by
  simp only [arange, List.mem_map, List.mem_range]
  constructor
  · rintro ⟨i, hi, rfl⟩
    exact ⟨Int.le_add_of_nonneg_right (Int.natCast_nonneg i), Int.add_lt_add_left (Int.ofNat_lt.mpr hi) lo⟩
  · intro ⟨h1, h2⟩
    have h0 : 0 ≤ x - lo := Int.sub_nonneg_of_le h1
    exact ⟨(x - lo).toNat, (Int.toNat_lt h0).mpr (Int.sub_left_lt_of_lt_add h2),
      by rw [Int.toNat_of_nonneg h0, Int.add_comm, Int.sub_add_cancel]⟩

theorem arange_nodup (lo : Int) (n : Nat) : (arange lo n).Nodup :=
  ListAux.nodup_map_on List.nodup_range fun _ _ _ _ e => Int.ofNat_inj.mp (Int.add_left_cancel e)

theorem genDomain_declared {R : Rng σ} (hR : R.WF) {P : Params} {a : Attr} {st st1 : σ} {dom : List Int}
    (h : genDomain R P a st = .ok (dom, st1)) : DomDeclared P a dom := by
  cases a with
  | card c =>
    simp only [genDomain, DomDeclared] at h ⊢
    by_cases hr : P.randomValues = true
    · rw [if_pos hr] at h ⊢
      split at h
      · have hw := hR.cnr st P.low _ c ‹_›
        generalize R.choiceNoRep st P.low _ c = r at h hw
        cases h
        exact ⟨hw.1, hw.2.1, fun x hx => by have := hw.2.2 x hx; omega⟩
      · cases h
    · rw [if_neg hr] at h ⊢
      cases h; rfl
  | vals v => cases h; rfl
  | freq v => cases h; rfl

theorem usesRep_iff {P : Params} {dom : List Int} :
    usesRep P dom = true ↔ P.ensureRep = true ∧ dom.length ≤ P.nSamples := by
  simp [usesRep]

theorem preShuffle_length {P : Params} {dom samp : List Int} (hs : samp.length = drawCount P dom) :
    (preShuffle P dom samp).length = P.nSamples := by
  unfold preShuffle
  unfold drawCount at hs
  by_cases hu : usesRep P dom = true
  · rw [if_pos hu] at hs ⊢
    rw [List.length_append, hs, Nat.sub_add_cancel (usesRep_iff.mp hu).2]
  · rw [if_neg hu] at hs ⊢
    exact hs

theorem mem_preShuffle {P : Params} {dom samp : List Int} {x : Int} :
    x ∈ preShuffle P dom samp ↔ x ∈ samp ∨ (P.ensureRep = true ∧ dom.length ≤ P.nSamples) ∧ x ∈ dom := by
  rw [← usesRep_iff, preShuffle]
  split <;> simp [*]

theorem sampleFrom_ok {R : Rng σ} (hR : R.WF) (P : Params) (given : Bool) {dom : List Int} (hne : dom ≠ []) (st : σ) :
    let f := (sampleFrom R P given dom st).1
    f.col.length = P.nSamples ∧ (∀ v ∈ f.col, v ∈ f.dom.map wrap32) ∧
      (P.ensureRep = true → f.dom.length ≤ P.nSamples → ∀ v ∈ f.dom, wrap32 v ∈ f.col) := by
  simp only [sampleFrom]
  generalize (if given then st else (R.randint st dom.length).2) = st2
  obtain ⟨hlen, hsub⟩ := hR.cp st2 dom (drawCount P dom) hne
  generalize R.choiceP st2 dom (drawCount P dom) = d at hlen hsub
  -- the column is the int32 image of a rearrangement of `pre` = the draws (followed by the domain)
  have hperm := shuffled_perm (preShuffle P dom d.1) _ (hR.sh d.2 _)
  generalize (R.shuffle d.2 (preShuffle P dom d.1).length).1.filterMap (fun i => (preShuffle P dom d.1)[i]?) = col at hperm
  refine ⟨by rw [List.length_map, hperm.length_eq, preShuffle_length hlen], fun v hv => ?_,
    fun he hle v hv => List.mem_map_of_mem (hperm.mem_iff.mpr (mem_preShuffle.mpr (.inr ⟨⟨he, hle⟩, hv⟩)))⟩
  obtain ⟨x, hx, rfl⟩ := List.mem_map.mp hv
  exact List.mem_map_of_mem ((mem_preShuffle.mp (hperm.mem_iff.mp hx)).elim (hsub x) (·.2))

theorem genFeature_ok {R : Rng σ} (hR : R.WF) {P : Params} {a : Attr} {st st' : σ} {f : Feat}
    (h : genFeature R P a st = .ok (f, st')) : FeatOK P a f := by
  unfold genFeature at h
  split at h
  · cases h
  · rename_i dom st1 hd
    obtain ⟨hne, h⟩ := ok_of_guard h
    obtain rfl : (sampleFrom R P (pGiven a) dom st1).1 = f := congrArg Prod.fst (Except.ok.inj h)
    exact ⟨genDomain_declared hR hd, sampleFrom_ok hR P (pGiven a) (mt List.isEmpty_iff.mpr hne) st1⟩

/-- pointwise relation of two lists (core Lean has no `Forall₂`) -/
inductive All2 {α β : Type} (r : α → β → Prop) : List α → List β → Prop
  | nil : All2 r [] []
  | cons {a b l m} : r a b → All2 r l m → All2 r (a :: l) (b :: m)

section
variable {α β : Type} {r : α → β → Prop} {l : List α} {m : List β}

theorem All2.length_eq (h : All2 r l m) : l.length = m.length := by
  induction h with
  | nil => rfl
  | cons _ _ ih => simp [ih]

theorem All2.get_right (h : All2 r l m) {j : Nat} {b : β} (hb : m[j]? = some b) : ∃ a, l[j]? = some a ∧ r a b := by
  induction h generalizing j with
  | nil => simp at hb
  | cons hab _ ih =>
    cases j with
    | zero => simp only [List.getElem?_cons_zero, Option.some.injEq] at hb; exact ⟨_, rfl, hb ▸ hab⟩
    | succ j => exact ih hb

theorem All2.get (h : All2 r l m) {j : Nat} {a : α} {b : β} (ha : l[j]? = some a) (hb : m[j]? = some b) : r a b := by
  obtain ⟨a', ha', hr⟩ := h.get_right hb
  cases ha.symm.trans ha'
  exact hr

theorem All2.of_mem_right (h : All2 r l m) {b : β} (hb : b ∈ m) : ∃ a, a ∈ l ∧ r a b :=
  have ⟨_, hj⟩ := List.getElem?_of_mem hb
  have ⟨a, ha, hr⟩ := h.get_right hj
  ⟨a, List.mem_of_getElem? ha, hr⟩

theorem All2.of_getElem? (hl : l.length = m.length)
    (h : ∀ (j : Nat) (a : α) (b : β), l[j]? = some a → m[j]? = some b → r a b) : All2 r l m := by
  induction l generalizing m with
  | nil => cases m with
    | nil => exact .nil
    | cons _ _ => cases hl
  | cons a l ih => cases m with
    | nil => cases hl
    | cons b m => exact .cons (h 0 a b rfl rfl) (ih (Nat.succ.inj hl) fun j a b ha hb => h (j + 1) a b ha hb)

end

theorem genAll_ok {R : Rng σ} (hR : R.WF) {P : Params} {as : List Attr} {st st' : σ} {fs : List Feat}
    (h : genAll R P as st = .ok (fs, st')) : All2 (FeatOK P) as fs := by
  induction as generalizing st fs with
  | nil => cases h; exact .nil
  | cons a as ih =>
    simp only [genAll] at h
    split at h
    · cases h
    · split at h <;> cases h
      exact .cons (genFeature_ok hR ‹_›) (ih ‹_›)

theorem place_no_overflow_length {nF : Nat} {dflt : Attr} {ix : Nat} {l : List (Nat × Attr)}
    (h : (place nF dflt ix l).2 = false) : (place nF dflt ix l).1.length = nF - ix := by
  induction l generalizing ix with
  | nil => exact List.length_replicate
  | cons d rest ih =>
    rw [place] at h ⊢
    generalize d.1 - ix = g at h ⊢
    split at h
    · rename_i hg
      -- `g + (nF - (ix + g + 1) + 1) = nF - ix` by hand: `omega` is slow on the nested subtractions
      rw [if_pos hg, List.length_append, List.length_replicate, List.length_cons, ih h, Nat.sub_add_eq,
        Nat.sub_add_cancel (Nat.sub_pos_of_lt hg), Nat.sub_add_eq, Nat.add_sub_of_le (Nat.le_sub_of_add_le' (Nat.le_of_lt hg))]
    · cases h

theorem expectedAttr_cons (dflt : Attr) (f : Nat) (a : Attr) (l : List (Nat × Attr)) (j : Nat) :
    expectedAttr dflt ((f, a) :: l) j = if f = j then a else expectedAttr dflt l j := by
  by_cases h : f = j <;> simp [expectedAttr, h]

theorem expectedAttr_of_lt (dflt : Attr) (l : List (Nat × Attr)) (j : Nat) (h : ∀ d ∈ l, j < d.1) :
    expectedAttr dflt l j = dflt := by
  rw [expectedAttr, List.find?_eq_none.mpr fun d hd => by simpa using Nat.ne_of_gt (h d hd)]

theorem place_inc {nF : Nat} {dflt : Attr} (ix : Nat) {l : List (Nat × Attr)}
    (hlo : ∀ d ∈ l, ix ≤ d.1) (hhi : ∀ d ∈ l, d.1 < nF) (hinc : l.Pairwise (fun a b => a.1 < b.1)) :
    (place nF dflt ix l).2 = false ∧
    ∀ k, k + ix < nF → (place nF dflt ix l).1[k]? = some (expectedAttr dflt l (k + ix)) := by
  induction l generalizing ix with
  | nil =>
    refine ⟨rfl, fun k hk => ?_⟩
    rw [place, List.getElem?_replicate, if_pos (Nat.lt_sub_of_add_lt hk)]; rfl
  | cons d rest ih =>
    obtain ⟨f, a⟩ := d
    rw [List.pairwise_cons] at hinc
    -- the declared index is `g` columns ahead: `g` default columns, then `a`, then the rest from `ix + g + 1`
    obtain ⟨g, rfl⟩ := Nat.exists_eq_add_of_le (hlo _ List.mem_cons_self)
    have h2 : ix + g < nF := hhi _ List.mem_cons_self
    obtain ⟨ih1, ih2⟩ := ih (ix + g + 1) hinc.1 (fun d hd => hhi d (List.mem_cons_of_mem _ hd)) hinc.2
    rw [place, Nat.add_sub_cancel_left, if_pos h2]
    refine ⟨ih1, fun k hk => ?_⟩
    rw [expectedAttr_cons]
    rcases Nat.lt_trichotomy k g with hlt | rfl | hgt
    · have hk' : k + ix < ix + g := Nat.add_comm k ix ▸ Nat.add_lt_add_left hlt ix
      rw [List.getElem?_append_left (by rwa [List.length_replicate]), List.getElem?_replicate, if_pos hlt,
        if_neg (Nat.ne_of_gt hk'), expectedAttr_of_lt dflt rest _ fun d hd => Nat.lt_trans hk' (hinc.1 d hd)]
    · rw [List.getElem?_append_right (Nat.le_of_eq List.length_replicate), List.length_replicate, Nat.sub_self,
        if_pos (Nat.add_comm ix k)]; rfl
    · obtain ⟨k', rfl⟩ := Nat.exists_eq_add_of_lt hgt
      -- the same column as offset `k'` of the recursive call, which starts at `ix + g + 1`
      have e : g + k' + 1 + ix = k' + (ix + g + 1) := by omega
      rw [e] at hk ⊢
      rw [Nat.add_assoc g k' 1, List.getElem?_append_right (by simp), List.length_replicate, Nat.add_sub_cancel_left,
        List.getElem?_cons_succ, ih2 k' hk, if_neg (Nat.ne_of_lt (Nat.lt_add_left k' (Nat.lt_succ_self _)))]

theorem expectedAttr_of_mem (dflt : Attr) {l : List (Nat × Attr)} (hinc : l.Pairwise (fun a b => a.1 < b.1))
    {d : Nat × Attr} (hd : d ∈ l) : expectedAttr dflt l d.1 = d.2 := by
  induction l with
  | nil => cases hd
  | cons e l ih =>
    rw [List.pairwise_cons] at hinc
    rw [expectedAttr_cons]
    rcases List.mem_cons.mp hd with rfl | hd'
    · rw [if_pos rfl]
    · rw [if_neg (Nat.ne_of_lt (hinc.1 d hd')), ih hinc.2 hd']

theorem cnrOK_sound {lo : Int} {pop k : Nat} {res : List Int} (h : cnrOK lo pop k res = true) :
    res.length = k ∧ res.Nodup ∧ ∀ x ∈ res, lo ≤ x ∧ x < lo + (pop : Int) := by
  simp only [cnrOK, Bool.and_eq_true, decide_eq_true_eq, List.all_eq_true] at h
  exact ⟨h.1.1, h.1.2, h.2⟩

theorem cpOK_sound {dom : List Int} {k : Nat} {res : List Int} (h : cpOK dom k res = true) :
    res.length = k ∧ ∀ x ∈ res, x ∈ dom := by
  simp only [cpOK, Bool.and_eq_true, decide_eq_true_eq, List.all_eq_true, List.contains_iff_mem] at h
  exact h

theorem shOK_sound {n : Nat} {perm : List Nat} (h : shOK n perm = true) : perm.Perm (List.range n) :=
  (List.mergeSort_perm perm _).symm.trans (.of_eq (eq_of_beq h))

theorem tapeRng_wf (tape : List Ev) : (tapeRng tape).WF where
  cnr st lo pop k hk := by
    have hdef : (arange lo k).length = k ∧ (arange lo k).Nodup ∧ ∀ x ∈ arange lo k, lo ≤ x ∧ x < lo + (pop : Int) :=
      ⟨arange_length lo k, arange_nodup lo k, fun x hx =>
        have ⟨h1, h2⟩ := mem_arange.mp hx
        ⟨h1, Int.lt_of_lt_of_le h2 (Int.add_le_add_left (Int.ofNat_le.mpr hk) lo)⟩⟩
    dsimp only [tapeRng]
    split
    · split
      · rename_i hc; exact cnrOK_sound hc.2.2.2
      · exact hdef
    · exact hdef
  ri st n hn := by
    dsimp only [tapeRng]
    split
    · split
      · rename_i hc; exact hc.2
      · exact hn
    · exact hn
  cp st dom k hne := by
    have hdef : (List.replicate k (dom.headD 0)).length = k ∧ ∀ x ∈ List.replicate k (dom.headD 0), x ∈ dom := by
      refine ⟨List.length_replicate, fun x hx => ?_⟩
      obtain rfl := (List.mem_replicate.mp hx).2
      cases dom with
      | nil => exact absurd rfl hne
      | cons a l => exact List.mem_cons_self
    dsimp only [tapeRng]
    split
    · split
      · rename_i hc; exact cpOK_sound hc.2.2
      · exact hdef
    · exact hdef
  sh st n := by
    dsimp only [tapeRng]
    split
    · split
      · rename_i hc; exact shOK_sound hc.2
      · exact List.Perm.refl _
    · exact List.Perm.refl _

theorem masks_eq_label (col : List Int) : maskGt39 (maskLt40 col) = col.map label := by
  simp only [maskGt39, maskLt40, List.map_map]
  refine List.map_congr_left fun v _ => ?_
  simp only [Function.comp_apply, label]
  rcases Int.lt_or_le v 40 with h | h
  · rw [if_pos h, if_neg (by decide), if_neg (Int.not_le.mpr h)]
  · rw [if_neg (Int.not_lt.mpr h), if_pos (show v > 39 from h), if_pos h]

theorem naive_eq {nf : Nat} {raw : List (List Int)} (hnf : 30 < nf) (hshape : ∀ row ∈ raw, row.length = nf) :
    naive nf raw = .ok (raw.map fun row => row.set 30 (label (row[30]?.getD 0)), raw.map fun row => label (row[30]?.getD 0)) := by
  have hcol : raw.mapM (fun row => row[30]?) = some (raw.map fun row => row[30]?.getD 0) := by
    rw [ListAux.mapM_eq_some, List.map_map]
    refine List.map_congr_left fun row hr => ?_
    rw [Function.comp_apply, List.getElem?_eq_getElem (hshape row hr ▸ hnf), Option.getD_some]
  simp only [naive, Nat.not_le.mpr hnf, if_false, hcol, masks_eq_label, List.map_map, List.zipWith_map_right, List.zipWith_self]
  rfl

end C19
