import OutrankModel.Lemmas.C18Table
/-! C18 – min-max normalisation: on a non-empty table `normalise` is `map (scale min max)` when `min < max` and undefined
otherwise; `scale` is strictly monotone, so order, minimum and maximum carry over (`IsMinMax.map`). -/
namespace C18

theorem minOf_eq_min? (l : List Rat) : minOf l = l.min? := by
  cases l with
  | nil => rfl
  | cons x xs => exact congrArg (fun f => some (xs.foldl f x)) (funext fun a => funext fun b => (min_def a b).symm)

theorem maxOf_eq_max? (l : List Rat) : maxOf l = l.max? := by
  cases l with
  | nil => rfl
  | cons x xs => exact congrArg (fun f => some (xs.foldl f x)) (funext fun a => funext fun b => (max_def a b).symm)

theorem minOf_eq_some_iff {l : List Rat} {m : Rat} : minOf l = some m ↔ m ∈ l ∧ ∀ y ∈ l, m ≤ y := by
  rw [minOf_eq_min?, List.min?_eq_some_iff]

theorem maxOf_eq_some_iff {l : List Rat} {m : Rat} : maxOf l = some m ↔ m ∈ l ∧ ∀ y ∈ l, y ≤ m := by
  rw [maxOf_eq_max?, List.max?_eq_some_iff]

def IsMinMax (t : Table) (mn mx : Rat) : Prop :=
  (∃ p ∈ t, p.2 = mn) ∧ (∃ p ∈ t, p.2 = mx) ∧ ∀ p ∈ t, mn ≤ p.2 ∧ p.2 ≤ mx

theorem normalise_nil : normalise [] = some [] := rfl

theorem normalise_of_ne_nil {t : Table} (hne : t ≠ []) : ∃ mn mx, IsMinMax t mn mx ∧
    normalise t = if mn < mx then some (t.map fun p => (p.1, scale mn mx p.2)) else none := by
  obtain ⟨p, ps, rfl⟩ := List.exists_cons_of_ne_nil hne
  obtain ⟨a2, a1⟩ := minOf_eq_some_iff.mp (rfl : minOf ((p :: ps).map (·.2)) = _)
  obtain ⟨b2, b1⟩ := maxOf_eq_some_iff.mp (rfl : maxOf ((p :: ps).map (·.2)) = _)
  exact ⟨_, _, ⟨List.mem_map.mp a2, List.mem_map.mp b2, fun q hq =>
    ⟨a1 _ (List.mem_map_of_mem hq), b1 _ (List.mem_map_of_mem hq)⟩⟩, rfl⟩

theorem normalise_some {t t' : Table} (hne : t ≠ []) (h : normalise t = some t') :
    ∃ mn mx, mn < mx ∧ IsMinMax t mn mx ∧ t' = t.map fun p => (p.1, scale mn mx p.2) := by
  obtain ⟨mn, mx, hm, e⟩ := normalise_of_ne_nil hne
  rw [e] at h
  split at h
  · exact ⟨mn, mx, ‹_›, hm, (Option.some.inj h).symm⟩
  · cases h

theorem normalise_eq_none_iff (t : Table) : normalise t = none ↔ t ≠ [] ∧ ∀ p ∈ t, ∀ q ∈ t, p.2 = q.2 := by
  by_cases hne : t = []
  · subst hne; simp [normalise_nil]
  · obtain ⟨mn, mx, ⟨⟨x, hx, ex⟩, ⟨y, hy, ey⟩, hall⟩, e⟩ := normalise_of_ne_nil hne
    rw [e, ite_eq_right_iff]
    constructor
    · intro hn
      have hle : mx ≤ mn := not_lt.mp fun hlt => Option.some_ne_none _ (hn hlt)
      exact ⟨hne, fun p hp q hq => le_antisymm ((hall p hp).2.trans (hle.trans (hall q hq).1))
        ((hall q hq).2.trans (hle.trans (hall p hp).1))⟩
    · rintro ⟨_, h⟩ hlt
      rw [← ex, ← ey, h x hx y hy] at hlt
      exact absurd hlt (lt_irrefl _)

theorem scale_min (mn mx : Rat) : scale mn mx mn = 0 := by rw [scale, sub_self, zero_div]
theorem scale_max {mn mx : Rat} (h : mn < mx) : scale mn mx mx = 1 := div_self (ne_of_gt (sub_pos.mpr h))
theorem scale_strictMono {mn mx : Rat} (h : mn < mx) : StrictMono (scale mn mx) := fun _ _ hs =>
  div_lt_div_of_pos_right (sub_lt_sub_right hs mn) (sub_pos.mpr h)

theorem normalise_eq_map {t t' : Table} (h : normalise t = some t') :
    ∃ g : Rat → Rat, Monotone g ∧ t' = t.map fun p => (p.1, g p.2) := by
  by_cases hne : t = []
  · subst hne; cases h; exact ⟨id, monotone_id, rfl⟩
  · obtain ⟨mn, mx, hlt, _, rfl⟩ := normalise_some hne h
    exact ⟨scale mn mx, (scale_strictMono hlt).monotone, rfl⟩

theorem IsMinMax.map {t : Table} {mn mx : Rat} {g : Rat → Rat} (hg : Monotone g) (hm : IsMinMax t mn mx) :
    IsMinMax (t.map fun p => (p.1, g p.2)) (g mn) (g mx) := by
  obtain ⟨⟨x, hx, ex⟩, ⟨y, hy, ey⟩, hall⟩ := hm
  refine ⟨⟨_, List.mem_map_of_mem hx, congrArg g ex⟩, ⟨_, List.mem_map_of_mem hy, congrArg g ey⟩, fun q hq => ?_⟩
  obtain ⟨p, hp, rfl⟩ := List.mem_map.mp hq
  exact ⟨hg (hall p hp).1, hg (hall p hp).2⟩

theorem IsMinMax.map_scale {t : Table} {mn mx : Rat} (h : mn < mx) (hm : IsMinMax t mn mx) :
    IsMinMax (t.map fun p => (p.1, scale mn mx p.2)) 0 1 :=
  scale_min mn mx ▸ scale_max h ▸ hm.map (scale_strictMono h).monotone

theorem head_is_max {t : Table} {mn mx : Rat} (hs : Desc t) (hm : IsMinMax t mn mx)
    {p : Name × Rat} (hp : t.head? = some p) : p.2 = mx := by
  obtain ⟨ys, rfl⟩ := List.head?_eq_some_iff.mp hp
  obtain ⟨_, ⟨q, hq, rfl⟩, hall⟩ := hm
  refine le_antisymm (hall p List.mem_cons_self).2 ?_
  rcases List.mem_cons.mp hq with rfl | hq
  · exact le_refl _
  · exact (List.pairwise_cons.mp hs).1 q hq

theorem last_is_min {t : Table} {mn mx : Rat} (hs : Desc t) (hm : IsMinMax t mn mx)
    {p : Name × Rat} (hp : t.getLast? = some p) : p.2 = mn := by
  obtain ⟨ys, rfl⟩ := List.getLast?_eq_some_iff.mp hp
  obtain ⟨⟨q, hq, rfl⟩, _, hall⟩ := hm
  refine le_antisymm ?_ (hall p (List.mem_append_right _ (List.mem_singleton_self p))).1
  rcases List.mem_append.mp hq with hq | hq
  · exact (List.pairwise_append.mp hs).2.2 q hq p (List.mem_singleton_self p)
  · rw [List.mem_singleton.mp hq]

end C18
