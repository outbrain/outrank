import Mathlib.Algebra.BigOperators.Field
import Mathlib.Algebra.Order.BigOperators.Group.Finset
import OutrankModel.Lemmas.MIReal
import OutrankModel.Lemmas.MIJoint
/-!
Facts about the finset forms `miPlugin`, `entropy`, `condEntropy`.  The two that need the marginals as SUMS of the joint counts
(`MI = H(Y) − H(Y|X)` and Gibbs) are proved on an abstract count table `Tbl` and transported through `tbl`; their analytic
steps are facts about four reals (a joint count `a`, its two marginals `p`, `q`, the total `n`).  Most of the others are
termwise; `condEntropy_of_le_one` uses the row sums of `jc` once more (`nx_eq`), `entropy_nodup` sums a constant.
-/
open Finset Real

structure Tbl (ι κ : Type) where
  Sx : Finset ι
  Sy : Finset κ
  a : ι → κ → ℕ

namespace Tbl

/-- `log (a n / (p q)) = log (a / p) − log (q / n)`, weighted by `a / n` -/
theorem log_term_eq {a n p q : ℝ} (ha : 0 ≤ a) (hn : 0 < n) (hp : a ≤ p) (hq : a ≤ q) :
    a / n * log (a * n / (p * q)) = p / n * (a / p * log (a / p)) - a / n * log (q / n) := by
  rcases ha.eq_or_lt with rfl | ha
  · simp only [zero_div, zero_mul, mul_zero, sub_self]
  · have hp' := (ha.trans_le hp).ne'
    rw [← mul_assoc, div_mul_div_cancel₀' hp', ← mul_sub,
      ← log_div (div_ne_zero ha.ne' hp') (div_ne_zero (ha.trans_le hq).ne' hn.ne'), div_div_div_eq, mul_comm p q]

/-- `1 − 1/t ≤ log t` at `t = a n / (p q)`, weighted by `a / n` -/
theorem log_term_lower {a n p q : ℝ} (ha : 0 ≤ a) (hn : 0 < n) (hp : a ≤ p) (hq : a ≤ q) :
    a / n - p * q / (n * n) ≤ a / n * log (a * n / (p * q)) := by
  rcases ha.eq_or_lt with rfl | ha
  · rw [zero_div, zero_mul, zero_sub, neg_nonpos]
    exact div_nonneg (mul_nonneg hp hq) (mul_self_nonneg n)
  · have e : a / n - p * q / (n * n) = a / n * (1 - (a * n / (p * q))⁻¹) := by
      rw [inv_div, mul_sub, mul_one, div_mul_div_comm, mul_comm a, ← mul_assoc n, mul_right_comm n,
        mul_div_mul_right _ _ ha.ne']
    rw [e]
    exact mul_le_mul_of_nonneg_left
      (one_sub_inv_le_log_of_pos (div_pos (mul_pos ha hn) (mul_pos (ha.trans_le hp) (ha.trans_le hq))))
      (div_pos ha hn).le

variable {ι κ : Type} (T : Tbl ι κ)

def nx (x : ι) : ℕ := ∑ y ∈ T.Sy, T.a x y
def ny (y : κ) : ℕ := ∑ x ∈ T.Sx, T.a x y
def n : ℕ := ∑ x ∈ T.Sx, T.nx x

noncomputable def HY : ℝ := - ∑ y ∈ T.Sy, ((T.ny y : ℝ) / T.n) * log ((T.ny y : ℝ) / T.n)
noncomputable def HYgX : ℝ :=
  - ∑ x ∈ T.Sx, ∑ y ∈ T.Sy, ((T.nx x : ℝ) / T.n) * (((T.a x y : ℝ) / T.nx x) * log ((T.a x y : ℝ) / T.nx x))
noncomputable def plugin : ℝ :=
  ∑ x ∈ T.Sx, ∑ y ∈ T.Sy, ((T.a x y : ℝ) / T.n) * log ((T.a x y : ℝ) * T.n / (T.nx x * T.ny y))

theorem a_le_nx {x : ι} {y : κ} (hy : y ∈ T.Sy) : T.a x y ≤ T.nx x :=
  Finset.single_le_sum (f := fun y => T.a x y) (fun _ _ => Nat.zero_le _) hy
theorem a_le_ny {x : ι} {y : κ} (hx : x ∈ T.Sx) : T.a x y ≤ T.ny y :=
  Finset.single_le_sum (f := fun x => T.a x y) (fun _ _ => Nat.zero_le _) hx
theorem nx_le_n {x : ι} (hx : x ∈ T.Sx) : T.nx x ≤ T.n :=
  Finset.single_le_sum (f := fun x => T.nx x) (fun _ _ => Nat.zero_le _) hx

theorem term_eq {x : ι} {y : κ} (hx : x ∈ T.Sx) (hy : y ∈ T.Sy) (hn : 0 < T.n) :
    ((T.a x y : ℝ) / T.n) * log ((T.a x y : ℝ) * T.n / (T.nx x * T.ny y))
    = ((T.nx x : ℝ) / T.n) * (((T.a x y : ℝ) / T.nx x) * log ((T.a x y : ℝ) / T.nx x))
      - ((T.a x y : ℝ) / T.n) * log ((T.ny y : ℝ) / T.n) :=
  log_term_eq (Nat.cast_nonneg _) (Nat.cast_pos.2 hn) (Nat.cast_le.2 (T.a_le_nx hy)) (Nat.cast_le.2 (T.a_le_ny hx))

theorem plugin_eq (hn : 0 < T.n) : T.plugin = T.HY - T.HYgX := by
  unfold plugin HY HYgX
  rw [Finset.sum_congr rfl fun x hx => Finset.sum_congr rfl fun y hy => T.term_eq hx hy hn]
  simp only [Finset.sum_sub_distrib]
  rw [neg_sub_neg, Finset.sum_comm (f := fun x y => (T.a x y : ℝ) / T.n * log ((T.ny y : ℝ) / T.n))]
  -- the columns of the second sum add up to the marginal `ny`
  simp only [← Finset.sum_mul, ← Finset.sum_div, ← Nat.cast_sum]
  rfl

theorem sum_ny : ∑ y ∈ T.Sy, T.ny y = T.n := by
  unfold ny n nx; rw [Finset.sum_comm]

theorem term_lower {x : ι} {y : κ} (hx : x ∈ T.Sx) (hy : y ∈ T.Sy) (hn : 0 < T.n) :
    (T.a x y : ℝ) / T.n - (T.nx x : ℝ) * T.ny y / ((T.n : ℝ) * T.n)
    ≤ ((T.a x y : ℝ) / T.n) * log ((T.a x y : ℝ) * T.n / (T.nx x * T.ny y)) :=
  log_term_lower (Nat.cast_nonneg _) (Nat.cast_pos.2 hn) (Nat.cast_le.2 (T.a_le_nx hy)) (Nat.cast_le.2 (T.a_le_ny hx))

/-- Gibbs: termwise `term_lower`, and the lower bounds add up to `n/n − n·n/(n·n) = 0` -/
theorem plugin_nonneg (hn : 0 < T.n) : 0 ≤ T.plugin := by
  have hnR : (T.n : ℝ) ≠ 0 := Nat.cast_ne_zero.2 hn.ne'
  have key : ∑ x ∈ T.Sx, ∑ y ∈ T.Sy, ((T.a x y : ℝ) / T.n - (T.nx x : ℝ) * T.ny y / ((T.n : ℝ) * T.n)) = 0 := by
    simp only [Finset.sum_sub_distrib, ← Finset.sum_div, ← Finset.sum_mul_sum, ← Nat.cast_sum]
    rw [T.sum_ny]
    exact (congrArg₂ (· - ·) (div_self hnR) (div_self (mul_ne_zero hnR hnR))).trans (sub_self 1)
  rw [← key]
  exact Finset.sum_le_sum fun x hx => Finset.sum_le_sum fun y hy => T.term_lower hx hy hn

end Tbl

namespace MI

def tbl (Y X : List Nat) : Tbl Nat Nat := ⟨X.toFinset, Y.toFinset, fun x c => jc Y X x c⟩

theorem tbl_nx (Y X : List Nat) (h : Y.length = X.length) (x : Nat) : (tbl Y X).nx x = X.count x :=
  nx_eq Y X h x
theorem tbl_ny (Y X : List Nat) (h : Y.length = X.length) (c : Nat) : (tbl Y X).ny c = Y.count c :=
  ny_eq Y X h c
theorem tbl_n (Y X : List Nat) (h : Y.length = X.length) : (tbl Y X).n = X.length := by
  unfold Tbl.n
  simp only [tbl_nx Y X h]
  exact List.sum_toFinset_count_eq_length X

theorem tbl_plugin (Y X : List Nat) (h : Y.length = X.length) : (tbl Y X).plugin = miPlugin Y X := by
  unfold Tbl.plugin miPlugin
  simp only [tbl_nx Y X h, tbl_ny Y X h, tbl_n Y X h]
  rfl
theorem tbl_HY (Y X : List Nat) (h : Y.length = X.length) : (tbl Y X).HY = entropy Y := by
  unfold Tbl.HY entropy
  simp only [tbl_ny Y X h, tbl_n Y X h, h]
  rfl
theorem tbl_HYgX (Y X : List Nat) (h : Y.length = X.length) : (tbl Y X).HYgX = condEntropy Y X := by
  unfold Tbl.HYgX condEntropy
  simp only [tbl_nx Y X h, tbl_n Y X h]
  rfl

theorem miPlugin_eq_sub (Y X : List Nat) (h : Y.length = X.length) (hn : 0 < X.length) :
    miPlugin Y X = entropy Y - condEntropy Y X := by
  rw [← tbl_plugin Y X h, ← tbl_HY Y X h, ← tbl_HYgX Y X h]
  exact (tbl Y X).plugin_eq (by rw [tbl_n Y X h]; exact hn)

theorem miPlugin_nonneg (Y X : List Nat) (h : Y.length = X.length) (hn : 0 < X.length) : 0 ≤ miPlugin Y X := by
  rw [← tbl_plugin Y X h]
  exact (tbl Y X).plugin_nonneg (by rw [tbl_n Y X h]; exact hn)

theorem condEntropy_nonneg (Y X : List Nat) (h : Y.length = X.length) : 0 ≤ condEntropy Y X := by
  unfold condEntropy
  rw [neg_nonneg]
  refine Finset.sum_nonpos fun x _ => Finset.sum_nonpos fun c _ => ?_
  have h0 : (0 : ℝ) ≤ (jc Y X x c : ℝ) / X.count x := div_nonneg (Nat.cast_nonneg _) (Nat.cast_nonneg _)
  exact mul_nonpos_of_nonneg_of_nonpos (div_nonneg (Nat.cast_nonneg _) (Nat.cast_nonneg _))
    (mul_nonpos_of_nonneg_of_nonpos h0 (log_nonpos h0
      (div_le_one_of_le₀ (Nat.cast_le.2 (jc_le_count Y X h x c)) (Nat.cast_nonneg _))))

theorem div_mul_log_div_eq_zero {a n : ℕ} (h : a = 0 ∨ a = n) : (a : ℝ) / n * log ((a : ℝ) / n) = 0 := by
  rcases h with rfl | rfl
  · rw [Nat.cast_zero, zero_div, zero_mul]
  · rcases eq_or_ne (a : ℝ) 0 with h0 | h0
    · rw [h0, zero_div, zero_mul]
    · rw [div_self h0, log_one, mul_zero]

theorem entropy_const (X : List Nat) (hc : ∀ a ∈ X, ∀ b ∈ X, a = b) : entropy X = 0 := by
  unfold entropy
  rw [neg_eq_zero]
  exact Finset.sum_eq_zero fun c hcm => div_mul_log_div_eq_zero
    (Or.inr (List.count_eq_length.mpr fun b hb => hc c (List.mem_toFinset.1 hcm) b hb))

theorem miPlugin_le_entropy_left (Y X : List Nat) (h : Y.length = X.length) (hn : 0 < X.length) :
    miPlugin Y X ≤ entropy Y := by
  rw [miPlugin_eq_sub Y X h hn]
  exact sub_le_self _ (condEntropy_nonneg Y X h)

theorem condEntropy_le_entropy (Y X : List Nat) (h : Y.length = X.length) (hn : 0 < X.length) :
    condEntropy Y X ≤ entropy Y :=
  sub_nonneg.1 (miPlugin_eq_sub Y X h hn ▸ miPlugin_nonneg Y X h hn)

theorem condEntropy_const (Y X : List Nat) (h : Y.length = X.length) (hn : 0 < X.length)
    (hc : ∀ a ∈ Y, ∀ b ∈ Y, a = b) : condEntropy Y X = 0 := by
  apply le_antisymm _ (condEntropy_nonneg Y X h)
  rw [← entropy_const Y hc]
  exact condEntropy_le_entropy Y X h hn

/-- a vector that is a function of the other one has no conditional entropy left -/
theorem condEntropy_eq_zero (Y X : List Nat) (hdet : ∀ x c, jc Y X x c = 0 ∨ jc Y X x c = X.count x) :
    condEntropy Y X = 0 := by
  unfold condEntropy
  rw [neg_eq_zero]
  exact Finset.sum_eq_zero fun x _ => Finset.sum_eq_zero fun c _ => by rw [div_mul_log_div_eq_zero (hdet x c), mul_zero]

theorem condEntropy_self (X : List Nat) : condEntropy X X = 0 :=
  condEntropy_eq_zero X X fun x c => by rw [jc_self]; split <;> simp

theorem miPlugin_self (X : List Nat) (hn : 0 < X.length) : miPlugin X X = entropy X := by
  rw [miPlugin_eq_sub X X rfl hn, condEntropy_self, sub_zero]

theorem condEntropy_nodup_right (Y X : List Nat) (h : Y.length = X.length) (hd : X.Nodup) : condEntropy Y X = 0 :=
  condEntropy_eq_zero Y X fun x c => by
    have h1 := jc_le_count Y X h x c
    have h2 := List.nodup_iff_count_le_one.mp hd x
    omega

theorem entropy_nodup (X : List Nat) (hd : X.Nodup) : entropy X = Real.log X.length := by
  unfold entropy
  have e : ∀ c ∈ X.toFinset, ((X.count c : ℝ) / X.length) * Real.log ((X.count c : ℝ) / X.length)
      = (1 / X.length) * Real.log (1 / X.length) := fun c hc => by
    rw [List.count_eq_one_of_mem hd (List.mem_toFinset.mp hc), Nat.cast_one]
  rw [Finset.sum_congr rfl e, Finset.sum_const, List.toFinset_card_of_nodup hd, nsmul_eq_mul, one_div, Real.log_inv]
  rcases eq_or_ne (X.length : ℝ) 0 with h0 | h0
  · simp [h0]
  · rw [← mul_assoc, mul_inv_cancel₀ h0, one_mul, neg_neg]

/-- when every joint count is 0 or 1, `H(W | X)` depends on `X` only -/
theorem condEntropy_of_le_one (W X : List Nat) (h : W.length = X.length) (h1 : ∀ x c, jc W X x c ≤ 1) :
    condEntropy W X = - ∑ x ∈ X.toFinset, ((X.count x : ℝ) / X.length) *
      ((X.count x : ℝ) * ((1 / (X.count x : ℝ)) * Real.log (1 / (X.count x : ℝ)))) := by
  unfold condEntropy
  congr 1
  refine Finset.sum_congr rfl (fun x _ => ?_)
  rw [← Finset.mul_sum]
  congr 1
  have e : ∀ c ∈ W.toFinset, ((jc W X x c : ℝ) / X.count x) * Real.log ((jc W X x c : ℝ) / X.count x)
      = (jc W X x c : ℝ) * ((1 / (X.count x : ℝ)) * Real.log (1 / (X.count x : ℝ))) := by
    intro c _
    rcases Nat.le_one_iff_eq_zero_or_eq_one.1 (h1 x c) with e | e
    · rw [e, Nat.cast_zero, zero_div, zero_mul, zero_mul]
    · rw [e, Nat.cast_one, one_mul]
  rw [Finset.sum_congr rfl e, ← Finset.sum_mul, ← Nat.cast_sum, nx_eq W X h x]

theorem sum_toFinset_map {M : Type} [AddCommMonoid M] (f : Nat → Nat) (Y : List Nat) (hf : InjOnList f Y) (G : ℕ → M) :
    ∑ c' ∈ (Y.map f).toFinset, G c' = ∑ c ∈ Y.toFinset, G (f c) := by
  rw [show (Y.map f).toFinset = Y.toFinset.image f by ext v; simp]
  exact Finset.sum_image fun a ha b hb => hf a (List.mem_toFinset.1 ha) b (List.mem_toFinset.1 hb)

/-- any double sum of a function of (joint count, row count, column count) is invariant under relabeling -/
theorem sum_relabel (F : ℕ → ℕ → ℕ → ℝ) (f g : Nat → Nat) (Y X : List Nat) (hf : InjOnList f Y) (hg : InjOnList g X) :
    ∑ x' ∈ (X.map g).toFinset, ∑ c' ∈ (Y.map f).toFinset,
        F (jc (Y.map f) (X.map g) x' c') ((X.map g).count x') ((Y.map f).count c')
      = ∑ x ∈ X.toFinset, ∑ c ∈ Y.toFinset, F (jc Y X x c) (X.count x) (Y.count c) := by
  rw [sum_toFinset_map g X hg]
  refine Finset.sum_congr rfl fun x hx => ?_
  rw [sum_toFinset_map f Y hf]
  refine Finset.sum_congr rfl fun c hc => ?_
  rw [List.mem_toFinset] at hx hc
  rw [jc_map f g Y X hf hg hx hc, hg.count_map hx, hf.count_map hc]

theorem miPlugin_map (f g : Nat → Nat) (Y X : List Nat) (hf : InjOnList f Y) (hg : InjOnList g X) :
    miPlugin (Y.map f) (X.map g) = miPlugin Y X := by
  unfold miPlugin
  simp only [List.length_map]
  exact sum_relabel (fun a nx ny => ((a : ℝ) / X.length) * Real.log ((a : ℝ) * X.length / (nx * ny))) f g Y X hf hg

theorem condEntropy_map (f g : Nat → Nat) (Y X : List Nat) (hf : InjOnList f Y) (hg : InjOnList g X) :
    condEntropy (Y.map f) (X.map g) = condEntropy Y X := by
  unfold condEntropy
  simp only [List.length_map]
  congr 1
  exact sum_relabel (fun a nx _ => ((nx : ℝ) / X.length) * (((a : ℝ) / nx) * Real.log ((a : ℝ) / nx))) f g Y X hf hg

end MI
