import OutrankModel.Lemmas.Pipeline
import OutrankModel.Lemmas.C18Table
/-!
Helper lemmas for Props/PipelineSummary.lean (DESIGN §11.2, summary stage): glue between the pipeline model's final table
and the C18 lemma files.  All the summary stage needs of `pairwise_ranks.tsv` is that an ordered pair has one score and that
both orientations of a pair carry it (`hu`, `hsw` below): the group of a feature is then `[s, s]` (`[s]` for the label itself)
and its median is `s`.
-/
namespace Pipeline

section Rows
variable {σ : Type} (toRat : σ → Rat) {t : List ((String × String) × σ)} {label : String}

theorem mem_tableRows (t : List ((String × String) × σ)) (r : C18.Row) :
    r ∈ tableRows toRat t ↔ ∃ a b s, ((a, b), s) ∈ t ∧ r = ⟨a.toList, b.toList, toRat s⟩ := by
  simp only [tableRows, List.mem_map, Prod.exists, eq_comm]

theorem pairs_of_mem_tableRows (hsw : ∀ a b s, ((a, b), s) ∈ t → ((b, a), s) ∈ t) {n : C18.Name} {r : C18.Row}
    (hr : r ∈ tableRows toRat t) (hp : C18.Pairs label.toList n r) :
    ∃ f s, n = f.toList ∧ ((f, label), s) ∈ t ∧ r.s = toRat s := by
  obtain ⟨a, b, s, hm, rfl⟩ := (mem_tableRows toRat t r).mp hr
  rcases hp with ⟨h1, h2⟩ | ⟨h1, h2⟩
  · exact ⟨b, s, h2.symm, String.toList_inj.mp h1 ▸ hsw a b s hm, rfl⟩
  · exact ⟨a, s, h2.symm, String.toList_inj.mp h1 ▸ hm, rfl⟩

theorem labelScores_median (hu : ∀ k s s', (k, s) ∈ t → (k, s') ∈ t → s = s')
    (hsw : ∀ a b s, ((a, b), s) ∈ t → ((b, a), s) ∈ t) {f : String} {s : σ} (hm : ((f, label), s) ∈ t) :
    C18.median (C18.labelScores label.toList f.toList (tableRows toRat t)) = some (toRat s) := by
  refine C18.median_const (List.ne_nil_of_mem (C18.mem_labelScores.mpr
    ⟨_, (mem_tableRows toRat t _).mpr ⟨f, label, s, hm, rfl⟩, .inr ⟨rfl, rfl⟩, rfl⟩)) fun x hx => ?_
  obtain ⟨r, hr, hp, rfl⟩ := C18.mem_labelScores.mp hx
  obtain ⟨f', s', e, hm', hrs⟩ := pairs_of_mem_tableRows toRat hsw hr hp
  cases String.toList_inj.mp e
  rw [hrs, hu _ _ _ hm' hm]

end Rows

end Pipeline
