import OutrankModel.Model.C06
import OutrankModel.Lemmas.ListAux
/-!
Lemmas for C06 (core Lean only). `cwr`, `dedup`, `diag` as lists; then `combos` in all four modes at once: `mem_combos`
unfolds it, `Requested` is the set of pairs a configuration asks for, and the property's two halves are
`requested_of_mem` and `cover_of_requested`. Last `mirror`, which is its argument together with the swapped copy.
-/
namespace C06
set_option linter.unusedSectionVars false
variable {α : Type} [DecidableEq α]

theorem mem_cwr_cons {x : α} {xs : List α} {a b : α} :
    (a, b) ∈ cwr (x :: xs) ↔ (a = x ∧ b ∈ x :: xs) ∨ (a, b) ∈ cwr xs := by
  simp only [cwr, List.mem_append, List.mem_map, Prod.mk.injEq]
  constructor
  · rintro (⟨y, hy, rfl, rfl⟩ | h)
    · exact Or.inl ⟨rfl, hy⟩
    · exact Or.inr h
  · rintro (⟨rfl, h⟩ | h)
    · exact Or.inl ⟨b, h, rfl, rfl⟩
    · exact Or.inr h

theorem mem_cwr_mem {l : List α} {p : α × α} (h : p ∈ cwr l) : p.1 ∈ l ∧ p.2 ∈ l := by
  induction l with
  | nil => cases h
  | cons x xs ih =>
    rcases (mem_cwr_cons (a := p.1) (b := p.2)).mp h with ⟨h1, h2⟩ | h'
    · exact ⟨h1 ▸ List.mem_cons_self, h2⟩
    · exact ⟨List.mem_cons_of_mem _ (ih h').1, List.mem_cons_of_mem _ (ih h').2⟩

theorem cwr_cover {l : List α} {a b : α} (ha : a ∈ l) (hb : b ∈ l) : (a, b) ∈ cwr l ∨ (b, a) ∈ cwr l := by
  induction l with
  | nil => cases ha
  | cons x xs ih =>
    rcases List.mem_cons.mp ha with rfl | ha'
    · exact Or.inl (mem_cwr_cons.mpr (Or.inl ⟨rfl, hb⟩))
    · rcases List.mem_cons.mp hb with rfl | hb'
      · exact Or.inr (mem_cwr_cons.mpr (Or.inl ⟨rfl, ha⟩))
      · exact (ih ha' hb').imp (fun h => mem_cwr_cons.mpr (Or.inr h)) (fun h => mem_cwr_cons.mpr (Or.inr h))

theorem cwr_self {l : List α} {a : α} (ha : a ∈ l) : (a, a) ∈ cwr l := (cwr_cover ha ha).elim id id

theorem cwr_antisymm {l : List α} (hl : l.Nodup) {a b : α} (h1 : (a, b) ∈ cwr l) (h2 : (b, a) ∈ cwr l) : a = b := by
  induction l with
  | nil => cases h1
  | cons x xs ih =>
    have hx : x ∉ xs := (List.nodup_cons.mp hl).1
    rcases mem_cwr_cons.mp h1 with ⟨rfl, -⟩ | h1'
    · rcases mem_cwr_cons.mp h2 with ⟨rfl, -⟩ | h2'
      · rfl
      · exact absurd (mem_cwr_mem h2').2 hx
    · rcases mem_cwr_cons.mp h2 with ⟨rfl, -⟩ | h2'
      · exact absurd (mem_cwr_mem h1').2 hx
      · exact ih (List.nodup_cons.mp hl).2 h1' h2'

theorem cwr_nodup {l : List α} (hl : l.Nodup) : (cwr l).Nodup := by
  induction l with
  | nil => exact List.nodup_nil
  | cons x xs ih =>
    have hn := List.nodup_cons.mp hl
    rw [cwr]
    refine List.nodup_append.mpr ⟨ListAux.nodup_map_on hl fun _ _ _ _ e => (Prod.mk.inj e).2, ih hn.2, ?_⟩
    -- a pair `(x, ·)` is no pair of the columns after `x`
    rintro _ hp q hq rfl
    obtain ⟨y, -, rfl⟩ := List.mem_map.mp hp
    exact hn.1 (mem_cwr_mem hq).1

theorem cwr_length (l : List α) : 2 * (cwr l).length = l.length * (l.length + 1) := by
  induction l with
  | nil => rfl
  | cons x xs ih =>
    simp only [cwr, List.length_append, List.length_map, List.length_cons]
    rw [Nat.mul_add, ih, ← Nat.add_mul, Nat.mul_comm, Nat.add_comm 2]

theorem mem_dedup {l : List α} {a : α} : a ∈ dedup l ↔ a ∈ l := by
  induction l with
  | nil => exact Iff.rfl
  | cons x xs ih =>
    rw [dedup]; split
    · next hx => rw [ih, List.mem_cons]; exact ⟨Or.inr, fun h => h.elim (· ▸ hx) id⟩
    · rw [List.mem_cons, List.mem_cons, ih]

theorem dedup_nodup (l : List α) : (dedup l).Nodup := by
  induction l with
  | nil => exact List.nodup_nil
  | cons x xs ih =>
    rw [dedup]; split
    · exact ih
    · next hx => exact List.nodup_cons.mpr ⟨fun h => hx (mem_dedup.mp h), ih⟩

theorem dedup_eq_self {l : List α} (h : l.Nodup) : dedup l = l := by
  induction l with
  | nil => rfl
  | cons x xs ih =>
    have := List.nodup_cons.mp h
    simp [dedup, this.1, ih this.2]

theorem mem_nonRel {le : α → α → Bool} {isRel : α → Bool} {cols : List α} {a : α} :
    a ∈ nonRel le isRel cols ↔ a ∈ cols ∧ isRel a = false := by
  unfold nonRel
  rw [(Srt.isort_perm le _).mem_iff, mem_dedup]
  simp

theorem nonRel_nodup (le : α → α → Bool) (isRel : α → Bool) (cols : List α) : (nonRel le isRel cols).Nodup :=
  (Srt.isort_perm le _).nodup_iff.mpr (dedup_nodup _)

theorem mem_map_mk {g : α → α} {l : List α} {p : α × α} : p ∈ l.map (fun c => (c, g c)) ↔ p.1 ∈ l ∧ p.2 = g p.1 := by
  obtain ⟨a, b⟩ := p
  simp only [List.mem_map, Prod.mk.injEq]
  constructor
  · rintro ⟨c, hc, rfl, rfl⟩; exact ⟨hc, rfl⟩
  · rintro ⟨hc, rfl⟩; exact ⟨a, hc, rfl, rfl⟩

theorem mem_diag {cols : List α} {label : α} {p : α × α} :
    p ∈ diag cols label ↔ p.1 = p.2 ∧ p.1 ∈ cols ∧ p.1 ≠ label := by
  rw [diag, mem_map_mk, List.mem_filter, bne_iff_ne, eq_comm, and_comm]

theorem filter_label_cwr (pre post : List α) (label : α) (h : (pre ++ label :: post).Nodup) :
    (cwr (pre ++ label :: post)).filter (fun p => p.1 == label || p.2 == label)
      = pre.map (fun c => (c, label)) ++ (label :: post).map (fun c => (label, c)) := by
  induction pre with
  | nil =>
    have hn := List.nodup_cons.mp h
    -- no pair of columns after the label survives, every pair `(label, ·)` does
    have h2 : (cwr post).filter (fun p => p.1 == label || p.2 == label) = [] :=
      List.filter_eq_nil_iff.mpr fun p hp hq => by
        have hm := mem_cwr_mem hp
        simp only [Bool.or_eq_true, beq_iff_eq] at hq
        rcases hq with e | e
        · exact hn.1 (e ▸ hm.1)
        · exact hn.1 (e ▸ hm.2)
    have hq : ((fun p : α × α => p.1 == label || p.2 == label) ∘ fun y => (label, y)) = fun _ => true :=
      funext fun y => by simp
    rw [List.nil_append, cwr, List.filter_append, h2, List.filter_map, hq, List.filter_eq_self.mpr fun _ _ => rfl]
    exact List.append_nil _
  | cons x pre' ih =>
    rw [List.cons_append] at h
    have hn := List.nodup_cons.mp h
    -- of the pairs `(x, ·)` only `(x, label)` survives
    have hxl : (x == label) = false := beq_eq_false_iff_ne.mpr fun e => hn.1 (e ▸ List.mem_append_right _ List.mem_cons_self)
    have hq : ((fun p : α × α => p.1 == label || p.2 == label) ∘ fun y => (x, y)) = fun y => y == label :=
      funext fun y => by simp [hxl]
    rw [List.cons_append, cwr, List.filter_append, ih hn.2, List.filter_map, hq, List.filter_beq, h.count,
      if_pos (List.mem_cons_of_mem _ (List.mem_append_right _ List.mem_cons_self))]
    rfl

theorem combos_target (le : α → α → Bool) (isRel : α → Bool) (cols : List α) (label : α) :
    combos le isRel cols label true false = (cwr cols).filter (fun p => p.1 == label || p.2 == label) := rfl

theorem combos_pairwise (le : α → α → Bool) (isRel : α → Bool) (cols : List α) (label : α) :
    combos le isRel cols label false false = cwr cols ++ diag cols label := rfl

section combos
variable {le : α → α → Bool} {isRel : α → Bool} {cols : List α} {label : α} {tO m3 : Bool}

theorem mem_combos {p : α × α} :
    p ∈ combos le isRel cols label tO m3 ↔
      (p ∈ cwr (if m3 then nonRel le isRel cols else cols) ∧ (m3 = false → tO = true → p.1 = label ∨ p.2 = label))
      ∨ (m3 = true ∧ p.1 ∈ cols ∧ isRel p.1 = true ∧ p.2 = label)
      ∨ (tO = false ∧ p ∈ diag cols label) := by
  cases m3 <;> cases tO <;> simp [combos, mem_map_mk, and_assoc]

theorem mem_combos_target {p : α × α} :
    p ∈ combos le isRel cols label true false ↔ p ∈ cwr cols ∧ (p.1 = label ∨ p.2 = label) :=
  mem_combos.trans (by simp)

/-- `p` is, in this orientation, a pair the configuration asks for (the second `Bool` is `is3mr`): what the oracle's `allowedB`
decides, and – at a fixed mode – the "nothing else" clause of C06-1..3 -/
abbrev Requested (isRel : α → Bool) (cols : List α) (label : α) (tO : Bool) : Bool → α × α → Prop
  | true, p => (p.1 ∈ cols ∧ p.2 ∈ cols ∧ isRel p.1 = false ∧ isRel p.2 = false)
      ∨ (p.1 ∈ cols ∧ isRel p.1 = true ∧ p.2 = label)
      ∨ (tO = false ∧ p.1 = p.2 ∧ p.1 ∈ cols ∧ p.1 ≠ label)
  | false, p => p.1 ∈ cols ∧ p.2 ∈ cols ∧ (tO = true → p.1 = label ∨ p.2 = label)

theorem requested_of_mem {p : α × α} (hp : p ∈ combos le isRel cols label tO m3) : Requested isRel cols label tO m3 p := by
  rcases mem_combos.mp hp with ⟨hc, hf⟩ | ⟨rfl, h⟩ | ⟨rfl, hd⟩
  · have hm := mem_cwr_mem hc
    cases m3
    · exact ⟨hm.1, hm.2, hf rfl⟩
    · exact Or.inl ⟨(mem_nonRel.mp hm.1).1, (mem_nonRel.mp hm.2).1, (mem_nonRel.mp hm.1).2, (mem_nonRel.mp hm.2).2⟩
  · exact Or.inr (Or.inl h)
  · have hd := mem_diag.mp hd
    cases m3
    · exact ⟨hd.2.1, hd.1 ▸ hd.2.1, nofun⟩
    · exact Or.inr (Or.inr ⟨rfl, hd⟩)

theorem cover_of_requested {a b : α} (h : Requested isRel cols label tO m3 (a, b)) :
    (a, b) ∈ combos le isRel cols label tO m3 ∨ (b, a) ∈ combos le isRel cols label tO m3 := by
  cases m3
  · exact (cwr_cover h.1 h.2.1).imp (fun hc => mem_combos.mpr (Or.inl ⟨hc, fun _ => h.2.2⟩))
      (fun hc => mem_combos.mpr (Or.inl ⟨hc, fun _ ht => (h.2.2 ht).symm⟩))
  · rcases h with ⟨ha, hb, ra, rb⟩ | h | ⟨ht, hd⟩
    · exact (cwr_cover (l := nonRel le isRel cols) (mem_nonRel.mpr ⟨ha, ra⟩) (mem_nonRel.mpr ⟨hb, rb⟩)).imp
        (fun hc => mem_combos.mpr (Or.inl ⟨hc, nofun⟩)) (fun hc => mem_combos.mpr (Or.inl ⟨hc, nofun⟩))
    · exact Or.inl (mem_combos.mpr (Or.inr (Or.inl ⟨rfl, h⟩)))
    · exact Or.inl (mem_combos.mpr (Or.inr (Or.inr ⟨ht, mem_diag.mpr hd⟩)))

theorem combos_names (hl : label ∈ cols) (tO m3 : Bool) {p : α × α} (hp : p ∈ combos le isRel cols label tO m3) :
    p.1 ∈ cols ∧ p.2 ∈ cols := by
  have h := requested_of_mem hp
  cases m3
  · exact ⟨h.1, h.2.1⟩
  · rcases h with h | h | h
    · exact ⟨h.1, h.2.1⟩
    · exact ⟨h.1, h.2.2 ▸ hl⟩
    · exact ⟨h.2.2.1, h.2.1 ▸ h.2.2.1⟩

/-- `hrel`: under 3MR the label must be no relation column, or it is paired with the relation columns only -/
theorem combos_cover_label (hl : label ∈ cols) (tO m3 : Bool) (hrel : m3 = true → isRel label = false) {f : α} (hf : f ∈ cols) :
    (f, label) ∈ combos le isRel cols label tO m3 ∨ (label, f) ∈ combos le isRel cols label tO m3 := by
  refine cover_of_requested ?_
  cases m3
  · exact ⟨hf, hl, fun _ => Or.inr rfl⟩
  · cases hfr : isRel f
    · exact Or.inl ⟨hf, hl, hfr, hrel rfl⟩
    · exact Or.inr (Or.inl ⟨hf, hfr, rfl⟩)

end combos

theorem diag_length {cols : List α} (hc : cols.Nodup) {label : α} (hl : label ∈ cols) :
    (diag cols label).length + 1 = cols.length := by
  -- the columns split into those that are not the label and the one that is
  have h := List.length_eq_countP_add_countP (fun c => c != label) (l := cols)
  have h1 : cols.countP (fun a => decide ¬(a != label) = true) = cols.count label :=
    List.countP_congr fun a _ => by simp
  rw [h1, hc.count, if_pos hl, List.countP_eq_length_filter] at h
  rw [diag, List.length_map]
  exact h.symm

theorem diag_nodup {cols : List α} (hc : cols.Nodup) (label : α) : (diag cols label).Nodup :=
  ListAux.nodup_map_on (hc.sublist List.filter_sublist) fun _ _ _ _ e => (Prod.mk.inj e).1

section mirror
variable {σ : Type}

theorem tswap_tswap (t : α × α × σ) : tswap (tswap t) = t := rfl

theorem mirror_perm (tr : List (α × α × σ)) : (mirror tr).Perm (tr ++ tr.map tswap) := by
  induction tr with
  | nil => exact .nil
  | cons x xs ih => exact ((List.Perm.swap ..).trans ((ih.cons _).cons x)).trans (.cons x List.perm_middle.symm)

theorem mem_mirror {tr : List (α × α × σ)} {t : α × α × σ} : t ∈ mirror tr ↔ t ∈ tr ∨ tswap t ∈ tr := by
  rw [(mirror_perm tr).mem_iff, List.mem_append]
  exact or_congr_right ⟨fun h => by obtain ⟨x, hx, rfl⟩ := List.mem_map.mp h; rwa [tswap_tswap],
    fun h => List.mem_map.mpr ⟨_, h, tswap_tswap t⟩⟩

theorem mirror_length (tr : List (α × α × σ)) : (mirror tr).length = 2 * tr.length := by
  rw [(mirror_perm tr).length_eq, List.length_append, List.length_map, Nat.two_mul]

theorem count_mirror [DecidableEq σ] (tr : List (α × α × σ)) (t : α × α × σ) :
    (mirror tr).count t = tr.count t + tr.count (tswap t) := by
  rw [(mirror_perm tr).count_eq, List.count_append]
  -- `tswap (tswap q)` is `q` by `rfl`, so `congrArg tswap e` is `q = tswap t`: `t` is the image of `tswap t` alone
  exact congrArg _ (ListAux.count_map_injOn tswap tr (tswap t) fun _ _ e => congrArg tswap e)

theorem mem_evaluate {score : α × α → σ} {ev : List (α × α)} {a b : α} {s : σ} :
    (a, b, s) ∈ evaluate score ev ↔ (a, b) ∈ ev ∧ s = score (a, b) := by
  simp only [evaluate, List.mem_map, Prod.mk.injEq, Prod.exists]
  constructor
  · rintro ⟨a', b', h, rfl, rfl, rfl⟩; exact ⟨h, rfl⟩
  · rintro ⟨h, rfl⟩; exact ⟨a, b, h, rfl, rfl, rfl⟩

theorem mem_rows {constant : Bool} {tr : List (α × α × σ)} {t : α × α × σ} (h : t ∈ rows constant tr) :
    t ∈ tr ∨ tswap t ∈ tr := by
  cases constant
  · exact mem_mirror.mp h
  · exact Or.inl h

end mirror

end C06
