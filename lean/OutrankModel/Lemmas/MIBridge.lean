import OutrankModel.Lemmas.MITable
/-!
Bridge from the executable model at `realOps` to the finset forms: the accumulator loops are list sums, `computeEntropies` is a
difference of such sums, the sums over the feature values are conditional entropies (`loopSum_eq_condEntropy`).  The equations
for `estimator` at `realOps` that Props/C01–C03 cite (`estimator_plain`, `estimator_corr`, `estimator_self_cc`,
`estimator_self_entropy`, `estimator_alldistinct`) and those for the executable specifications `pluginL`, `condEntropyL`, `correctedSpecL` are here; the
one for `entropyL` is `MI.entropyL_eq` in Props/C01.
-/
open Finset

namespace MI

theorem foldl_add_real {β : Type} (g : β → ℝ) (l : List β) (a : ℝ) :
    l.foldl (fun acc k => acc + g k) a = a + (l.map g).sum := by
  induction l generalizing a with
  | nil => simp
  | cons k t ih => rw [List.foldl_cons, ih, List.map_cons, List.sum_cons, add_assoc]

theorem sumL_real (l : List ℝ) : sumL realOps l = l.sum := by
  have := foldl_add_real (fun x : ℝ => x) l 0
  simpa [sumL, realOps] using this

/-- the guard `k ≠ 0` of the loop is immaterial at ℝ: `0 / s * log (0 / s) = 0` -/
theorem condTerm_real (counts : List Nat) (shape : Nat) (ip : ℝ) :
    condTerm realOps counts shape ip
      = (counts.map fun k : ℕ => -(ip * ((k : ℝ) / shape * Real.log ((k : ℝ) / shape)))).sum := by
  have step : ∀ (acc : ℝ) (k : ℕ),
      (if k ≠ 0 then acc - ip * ((k : ℝ) / shape) * Real.log ((k : ℝ) / shape) else acc)
        = acc + -(ip * ((k : ℝ) / shape * Real.log ((k : ℝ) / shape))) := fun acc k => by
    split
    · rw [sub_eq_add_neg, mul_assoc]
    · next h => rw [not_not.1 h, Nat.cast_zero, zero_div, zero_mul, mul_zero, neg_zero, add_zero]
  simp only [condTerm, realOps, step, foldl_add_real, zero_add]

/-- the per-feature-value step of `computeEntropies` -/
theorem foldl_pair_real (A B : Nat × Nat → ℝ) (cc : Bool) (l : List (Nat × Nat)) (a b : ℝ) :
    l.foldl (fun (acc : ℝ × ℝ) fv =>
        if fv.2 = 1 then acc else (acc.1 + A fv, if cc then acc.2 + B fv else acc.2)) (a, b)
      = (a + (l.map fun fv => if fv.2 = 1 then 0 else A fv).sum,
         b + (l.map fun fv => if fv.2 = 1 then 0 else if cc then B fv else 0).sum) := by
  induction l generalizing a b with
  | nil => simp
  | cons fv t ih =>
    simp only [List.foldl_cons, List.map_cons, List.sum_cons]
    by_cases h1 : fv.2 = 1
    · simp only [h1, if_true, ih, zero_add]
    · simp only [h1, if_false, ih]
      cases cc
      · simp only [Bool.false_eq_true, if_false, add_assoc, zero_add]
      · simp only [if_true, add_assoc]

/-- what the loop over the feature values `(x, cnt)` accumulates at ℝ from the class counts of `V x cnt`, which is the
stratum of `x` or its displaced copy -/
noncomputable def loopSum (Y : List Nat) (n : Nat) (fvals : List (Nat × Nat)) (V : Nat → Nat → List Nat) : ℝ :=
  (fvals.map fun fv => if fv.2 = 1 then 0 else
    ((vals Y).map fun c => -((fv.2 : ℝ) / n *
      (((V fv.1 fv.2).count c : ℝ) / fv.2 * Real.log (((V fv.1 fv.2).count c : ℝ) / fv.2)))).sum).sum

theorem computeEntropies_real (X Y : List Nat) (n : Nat) (fvals : List (Nat × Nat)) (cc : Bool) :
    computeEntropies realOps X Y n fvals cc =
      if cc then -loopSum Y n fvals (fun x _ => stratum Y X x) + loopSum Y n fvals (spoofed Y X)
      else ((vals Y).map fun c => -((Y.count c : ℝ) / n) * Real.log ((Y.count c : ℝ) / n)).sum
        - loopSum Y n fvals (fun x _ => stratum Y X x) := by
  unfold computeEntropies loopSum
  -- `condTerm_real` has to rewrite before `realOps` is unfolded
  simp only [condTerm_real, List.map_map, Function.comp_def]
  simp only [realOps]
  rw [foldl_pair_real, foldl_add_real]
  cases cc <;> simp only [Bool.false_eq_true, if_false, if_true, zero_add]

theorem estimator_real (Y X : List Nat) (cc : Bool) :
    estimator realOps Y X 1 1 cc =
      .ok (computeEntropies realOps X Y X.length ((vals X).map fun x => (x, X.count x))
        (if X = Y then false else cc)) := by
  rw [estimator, if_neg (Nat.lt_irrefl 1), estimatorCore]
  simp only [realOps, Nat.cast_one, div_one, one_mul]

/-- The loop over the feature values adds up to `H(W | X)` when the class counts of `V x (count x)` are the joint counts
of `W` and `X`.  Strata of size 1 are skipped by the loop and contribute 0 to `H(W | X)`; the loop runs over the classes
of `Y`, of which those outside `W` have joint count 0. -/
theorem loopSum_eq_condEntropy (W X Y : List Nat) (h : W.length = X.length) (hW : ∀ c ∈ W, c ∈ Y)
    (V : Nat → Nat → List Nat) (hV : ∀ x c, (V x (X.count x)).count c = jc W X x c) :
    loopSum Y X.length ((vals X).map fun x => (x, X.count x)) V = condEntropy W X := by
  unfold loopSum condEntropy
  simp only [List.map_map, Function.comp_def, sum_vals, hV]
  rw [← Finset.sum_neg_distrib]
  refine Finset.sum_congr rfl fun x _ => ?_
  have hsub : W.toFinset ⊆ Y.toFinset := fun c hc => List.mem_toFinset.2 (hW c (List.mem_toFinset.1 hc))
  rw [Finset.sum_subset hsub fun c _ hc => by
    rw [jc_eq_zero_of_not_mem_left (mt List.mem_toFinset.2 hc), Nat.cast_zero, zero_div, zero_mul, mul_zero]]
  split
  · next hx =>
    rw [eq_comm, neg_eq_zero]
    refine Finset.sum_eq_zero fun c _ => ?_
    have hle := jc_le_count W X h x c
    rw [div_mul_log_div_eq_zero (by omega), mul_zero]
  · exact Finset.sum_neg_distrib _

theorem estimator_plain (Y X : List Nat) (h : Y.length = X.length) :
    estimator realOps Y X 1 1 false = .ok (entropy Y - condEntropy Y X) := by
  rw [estimator_real, computeEntropies_real,
    loopSum_eq_condEntropy Y X Y h (fun _ hc => hc) _ (fun x c => count_stratum Y X x c)]
  simp only [ite_self, Bool.false_eq_true, if_false, sum_vals]
  unfold entropy
  rw [h, ← Finset.sum_neg_distrib]
  simp only [neg_mul]

theorem estimator_corr (Y X : List Nat) (h : Y.length = X.length) (hne : Y ≠ X) :
    estimator realOps Y X 1 1 true = .ok (condEntropy (ystar Y X) X - condEntropy Y X) := by
  -- two different vectors of equal length are not empty
  have hY : 0 < Y.length := List.length_pos_iff.2 fun e => hne (by subst e; exact (List.length_eq_zero_iff.1 h.symm).symm)
  rw [estimator_real, if_neg (fun e => hne e.symm : ¬X = Y), computeEntropies_real, if_pos rfl,
    loopSum_eq_condEntropy Y X Y h (fun _ hc => hc) _ (fun x c => count_stratum Y X x c),
    loopSum_eq_condEntropy (ystar Y X) X Y (length_ystar Y X) (fun _ => mem_ystar Y X hY) _ (count_spoofed Y X),
    neg_add_eq_sub]

/-- the self-pair test switches the correction off -/
theorem estimator_self_cc (X : List Nat) (cc : Bool) :
    estimator realOps X X 1 1 cc = estimator realOps X X 1 1 false := by
  rw [estimator_real, estimator_real]
  simp

theorem estimator_self_entropy (X : List Nat) (cc : Bool) : estimator realOps X X 1 1 cc = .ok (entropy X) := by
  rw [estimator_self_cc, estimator_plain X X rfl, condEntropy_self, sub_zero]

/-- `Y` and its displaced copy both have joint counts ≤ 1 with `X`, so the two conditional entropies agree -/
theorem estimator_alldistinct (Y X : List Nat) (h : Y.length = X.length) (hd : Y.Nodup) (hne : Y ≠ X) :
    estimator realOps Y X 1 1 true = .ok 0 := by
  rw [estimator_corr Y X h hne,
    condEntropy_of_le_one Y X h (jc_le_one_of_nodup Y X h hd),
    condEntropy_of_le_one (ystar Y X) X (length_ystar Y X) (jc_ystar_le_one Y X h hd), sub_self]

/-! The executable specifications: their guards `if a = 0 then 0 else …` are immaterial at ℝ (the guarded term is `0` at
`a = 0`), and no length hypothesis is needed. -/

theorem pluginL_real (Y X : List Nat) : pluginL realOps Y X = miPlugin Y X := by
  unfold pluginL miPlugin
  simp only [sumL_real, List.map_map, Function.comp_def, sum_vals, count_stratum]
  refine Finset.sum_congr rfl fun x _ => Finset.sum_congr rfl fun c _ => ite_eq_right_iff.2 fun ha => ?_
  simp only [ha, realOps, Nat.cast_zero, zero_div, zero_mul]

theorem condEntropyL_real (Y X : List Nat) : condEntropyL realOps Y X = condEntropy Y X := by
  unfold condEntropyL condEntropy
  simp only [sumL_real, sum_vals, count_stratum]
  refine congrArg Neg.neg
    (Finset.sum_congr rfl fun x _ => Finset.sum_congr rfl fun c _ => ite_eq_right_iff.2 fun ha => ?_)
  simp only [ha, realOps, Nat.cast_zero, zero_div, zero_mul, mul_zero]

theorem correctedSpecL_real (Y X : List Nat) :
    correctedSpecL realOps Y X = condEntropy (ystar Y X) X - condEntropy Y X := by
  unfold correctedSpecL
  rw [condEntropyL_real, condEntropyL_real]
  rfl

end MI
