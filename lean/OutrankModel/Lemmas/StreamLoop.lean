import OutrankModel.Model.Stream
import OutrankModel.Lemmas.ListAux
/-!
Helper lemmas for C08-1: the line loop equals the chunking specification.  The loop keeps an invariant (`Inv`: the batches
handed over are full blocks, the buffer is shorter than a block, together they are the valid selected lines so far); a list
splits in one way only into full blocks and a shorter rest (`blocks_unique`), and `fullChunks` / `remainder` is such a
splitting (Props/C08 `chunks_in_order`, `chunk_sizes`).  Core Lean only.
-/
namespace Stream
variable {α β : Type}

theorem selected_concat (sub : Nat) (l : List β) (x : β) :
    selected sub (l ++ [x]) = selected sub l ++ if (l.length + 1) % sub = 0 then [x] else [] := by
  by_cases h : (l.length + 1) % sub = 0 <;> simp [selected, List.zipIdx_append, h]

theorem validOf_concat (l : List (Bool × α)) (ok : Bool) (a : α) :
    validOf (l ++ [(ok, a)]) = validOf l ++ if ok then [a] else [] := by
  cases ok <;> simp [validOf]

theorem selected_map {γ : Type} (sub : Nat) (f : β → γ) (l : List β) :
    selected sub (l.map f) = (selected sub l).map f := by
  simp [selected, List.zipIdx_map, List.filter_map, Function.comp_def]

theorem validOf_map_true (l : List α) : validOf (l.map fun r => (true, r)) = l := by
  simp [validOf, List.filter_map, Function.comp_def]

theorem length_invalid (l : List (Bool × α)) : (l.filter (!·.1)).length = l.length - (validOf l).length := by
  have h := List.length_eq_countP_add_countP (fun x : Bool × α => x.1) (l := l)
  simp only [List.countP_eq_length_filter, decide_not, Bool.decide_eq_true] at h
  rw [validOf, List.length_map]
  exact Nat.eq_sub_of_add_eq' h.symm

theorem chunks_short (B : Nat) (v : List α) (h : v.length < B) :
    fullChunks B v = [] ∧ remainder B v = v := by
  simp [fullChunks, remainder, Nat.div_eq_of_lt h]

theorem blocks_unique {B : Nat} {ds ds' : List (List α)} {r r' : List α} (hd : ∀ d ∈ ds, d.length = B)
    (hd' : ∀ d ∈ ds', d.length = B) (hr : r.length < B) (hr' : r'.length < B)
    (h : ds.flatten ++ r = ds'.flatten ++ r') : ds = ds' ∧ r = r' := by
  -- a short rest cannot begin with a full block
  have short : ∀ {d x r : List α}, d.length = B → r.length < B → r ≠ d ++ x := fun hd hr e => by
    rw [e, List.length_append, hd] at hr
    exact Nat.not_lt.mpr (Nat.le_add_right B _) hr
  induction ds generalizing ds' with
  | nil =>
    cases ds' with
    | nil => exact ⟨rfl, h⟩
    | cons d' ds' =>
      rw [List.flatten_cons, List.append_assoc] at h
      exact absurd h (short (hd' d' List.mem_cons_self) hr)
  | cons d ds ih =>
    rw [List.flatten_cons, List.append_assoc] at h
    cases ds' with
    | nil => exact absurd h.symm (short (hd d List.mem_cons_self) hr')
    | cons d' ds' =>
      rw [List.flatten_cons, List.append_assoc] at h
      obtain ⟨rfl, h'⟩ := List.append_inj h ((hd d List.mem_cons_self).trans (hd' d' List.mem_cons_self).symm)
      exact (ih (fun x hx => hd x (List.mem_cons_of_mem _ hx))
        (fun x hx => hd' x (List.mem_cons_of_mem _ hx)) h').imp_left (congrArg _)

structure Inv (c : Cfg) (hist : List (Bool × α)) (s : St α) : Prop where
  lc : s.lc = hist.length
  buf : s.buf.length < c.batch
  done : ∀ d ∈ s.done, d.length = c.batch
  rows : s.done.flatten ++ s.buf = validOf (selected c.sub hist)
  invalid : s.invalid = ((selected c.sub hist).filter (!·.1)).length

theorem inv_foldl (c : Cfg) (hB : 1 ≤ c.batch) (lines : List (Bool × α)) :
    Inv c lines (lines.foldl (step c) St.init) := by
  refine ListAux.foldl_hist ⟨rfl, hB, nofun, rfl, rfl⟩ ?_ lines
  rintro hist ⟨lc, buf, done, inv⟩ ⟨ok, a⟩ ⟨h1, hbuf, hdone, hrows, hinv⟩
  simp only at h1 hbuf hdone hrows hinv
  subst h1
  by_cases hsel : (hist.length + 1) % c.sub = 0
  · cases ok
    · -- a malformed line is counted; the buffer is not full, so no batch is cut
      have e : step c ⟨hist.length, buf, done, inv⟩ (false, a) = ⟨hist.length + 1, buf, done, inv + 1⟩ := by
        simp [step, hsel, Nat.not_le_of_lt hbuf]
      rw [e]
      exact ⟨by simp, hbuf, hdone, by simp [selected_concat, hsel, validOf_concat, hrows],
        by simp [selected_concat, hsel, hinv]⟩
    · have e : step c ⟨hist.length, buf, done, inv⟩ (true, a) =
            if c.batch ≤ buf.length + 1 then ⟨hist.length + 1, [], done ++ [buf ++ [a]], inv⟩
            else ⟨hist.length + 1, buf ++ [a], done, inv⟩ := by
        simp [step, hsel]
      rw [e]
      split
      · -- the row fills the buffer, which becomes the next full block
        refine ⟨by simp, hB, List.forall_mem_append.mpr ⟨hdone, List.forall_mem_singleton.mpr ?_⟩,
          by simp [selected_concat, hsel, validOf_concat, ← hrows], by simp [selected_concat, hsel, hinv]⟩
        rw [List.length_append, List.length_singleton]
        omega
      · exact ⟨by simp, by simp; omega, hdone, by simp [selected_concat, hsel, validOf_concat, ← hrows],
          by simp [selected_concat, hsel, hinv]⟩
  · have e : step c ⟨hist.length, buf, done, inv⟩ (ok, a) = ⟨hist.length + 1, buf, done, inv⟩ := by
      simp [step, hsel]
    rw [e]
    exact ⟨by simp, hbuf, hdone, by simp [selected_concat, hsel, hrows], by simp [selected_concat, hsel, hinv]⟩

end Stream
