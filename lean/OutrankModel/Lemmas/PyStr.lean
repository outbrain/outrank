import OutrankModel.Model.PyInt
import OutrankModel.Model.C16
/-! The Python string primitives of the expression translator (`Py.*`, Model/PyInt.lean, on `String`) against the string
primitives of the hand-written parser models (`C16.*`, on `List Char`).  Used by the bridge theorems of Props/Src. -/
namespace PyStr
open C16

theorem isSpace_eq : Py.isSpace = C16.isPySpace := rfl

theorem rstripL_eq (p : Char → Bool) (l : List Char) : Py.rstripL p l = rstripP p l := rfl

theorem stripL_space (l : List Char) : Py.stripL Py.isSpace l = pyStrip l := rfl

theorem strip_model (s : String) : (Py.strip s).toList = pyStrip s.toList := by
  simp [Py.strip, stripL_space]

/-- `s.rstrip(chars)` / `s.lstrip(chars)` / `s.strip(chars)`: the character-set forms, as rewriting rules -/
theorem toList_rstripChars (s chars : String) : (Py.rstripChars s chars).toList = rstripP (Py.inChars chars) s.toList := by
  simp [Py.rstripChars, rstripL_eq]

theorem toList_lstripChars (s chars : String) : (Py.lstripChars s chars).toList = s.toList.dropWhile (Py.inChars chars) := by
  simp [Py.lstripChars, Py.lstripL]

theorem toList_stripChars (s chars : String) :
    (Py.stripChars s chars).toList = rstripP (Py.inChars chars) (s.toList.dropWhile (Py.inChars chars)) := by
  simp [Py.stripChars, Py.stripL, Py.lstripL, rstripL_eq]

/-- `s.rstrip(chars)` when `chars` is the set recognised by `p` -/
theorem rstripChars_model (s chars : String) (p : Char → Bool) (h : ∀ c, Py.inChars chars c = p c) :
    (Py.rstripChars s chars).toList = rstripP p s.toList := by
  rw [toList_rstripChars, funext h]

theorem lstripChars_model (s chars : String) (p : Char → Bool) (h : ∀ c, Py.inChars chars c = p c) :
    (Py.lstripChars s chars).toList = s.toList.dropWhile p := by
  rw [toList_lstripChars, funext h]

theorem stripChars_model (s chars : String) (p : Char → Bool) (h : ∀ c, Py.inChars chars c = p c) :
    (Py.stripChars s chars).toList = rstripP p (s.toList.dropWhile p) := by
  rw [toList_stripChars, funext h]

theorem splitL_single (d : Char) : ∀ l : List Char, Py.splitL [d] 0 l = splitOn d l
  | [] => by simp [Py.splitL, splitOn]
  | c :: cs => by
    have ih := splitL_single d cs
    by_cases h : c = d
    · subst h; simp [Py.splitL, splitOn, ih]
    · have h' : ¬ d = c := fun e => h e.symm
      rw [Py.splitL, splitOn, ih]
      cases splitOn d cs <;> simp [h, h']

theorem splitL_ne_nil (sep : List Char) : ∀ (k : Nat) (l : List Char), Py.splitL sep k l ≠ []
  | _, [] => by simp [Py.splitL]
  | k + 1, _ :: cs => by simpa [Py.splitL] using splitL_ne_nil sep k cs
  | 0, c :: cs => by
    simp only [Py.splitL]
    split
    · simp
    · split <;> simp

theorem split_of_single (s sep : String) (d : Char) (h : sep.toList = [d]) :
    Py.split s sep = (splitOn d s.toList).map String.ofList := by
  simp [Py.split, h, splitL_single]

theorem split_ne_nil (s sep : String) : Py.split s sep ≠ [] := by
  simp [Py.split, splitL_ne_nil]

theorem split?_of_single (s sep : String) (d : Char) (h : sep.toList = [d]) :
    Py.split? s sep = some ((splitOn d s.toList).map String.ofList) := by
  have hne : sep ≠ "" := by rintro rfl; simp at h
  simp [Py.split?, hne, split_of_single s sep d h]

theorem split?_empty (s : String) : Py.split? s "" = none := by simp [Py.split?]

theorem joinL_eq (sep : List Char) : ∀ xs : List (List Char), Py.joinL sep xs = joinSep sep xs
  | [] => rfl
  | [_] => rfl
  | x :: y :: r => by simp [Py.joinL, joinSep, joinL_eq sep (y :: r)]

theorem join_model (sep : String) (xs : List String) :
    (Py.join sep xs).toList = joinSep sep.toList (xs.map String.toList) := by
  simp [Py.join, joinL_eq]

/-- a filter on strings seen on the character lists (any predicate: rewrites of the condition stay provable) -/
theorem map_toList_filter (p : String → Bool) (xs : List String) :
    (xs.filter p).map String.toList = (xs.map String.toList).filter fun l => p (String.ofList l) := by
  induction xs with
  | nil => rfl
  | cons x xs ih => by_cases h : p x <;> simp [h, ih]

theorem dropStr_model (s : String) (k : Nat) : (Py.dropStr s k).toList = s.toList.drop k := by simp [Py.dropStr]

/-- comparison with a string, e.g. a literal, moved to the character lists without evaluating it -/
theorem ofList_eq_iff (l : List Char) (s : String) : String.ofList l = s ↔ l = s.toList := by
  constructor <;> rintro rfl <;> simp

theorem map_toList_map_ofList (l : List (List Char)) : (l.map String.ofList).map String.toList = l := by simp

end PyStr
