import OutrankModel.Lemmas.MIVals
import OutrankModel.Lemmas.ListAux
/-!
For C04 (stratified sub-sampling), core Lean only.  `positions X x` is an ascending sublist of the row numbers; `strata X q`
names the rows the code writes into its index buffer, and `sampledRows`, `indexBuffer`, `subsampleM` are restated through it;
`gather` over initialised cells with valid row numbers is a `filterMap`.
-/
namespace MI
namespace Smp

theorem mem_positions {X : List Nat} {x i : Nat} : i ∈ positions X x ↔ X[i]? = some x := by
  simp only [positions, List.mem_filterMap, Prod.exists, List.mem_zipIdx_iff_getElem?, Option.ite_none_right_eq_some,
    Option.some.injEq]
  exact ⟨fun ⟨v, j, hm, hv, hj⟩ => hj ▸ hv ▸ hm, fun h => ⟨x, i, h, rfl, rfl⟩⟩

theorem positions_sublist (X : List Nat) (x : Nat) : (positions X x).Sublist (List.range' 0 X.length) := by
  have e : positions X x = (X.zipIdx.filter fun p => p.1 = x).map Prod.snd := by
    unfold positions
    rw [← List.filterMap_eq_map', List.filterMap_filter]
    simp only [decide_eq_true_eq]
  rw [e, ← List.zipIdx_map_snd 0 X]
  exact List.filter_sublist.map _

theorem positions_sorted (X : List Nat) (x : Nat) : (positions X x).Pairwise (· < ·) :=
  List.Pairwise.sublist (positions_sublist X x) List.pairwise_lt_range'

theorem positions_nodup (X : List Nat) (x : Nat) : (positions X x).Nodup :=
  List.nodup_iff_pairwise_ne.2 ((positions_sorted X x).imp Nat.ne_of_lt)

theorem lt_of_mem_positions {X : List Nat} {x i : Nat} (h : i ∈ positions X x) : i < X.length :=
  (List.getElem?_eq_some_iff.1 (mem_positions.1 h)).1

theorem positions_eq_nil {X : List Nat} {x : Nat} (h : x ∉ X) : positions X x = [] := by
  apply List.eq_nil_iff_forall_not_mem.2
  intro i hi
  rw [mem_positions] at hi
  exact h (List.mem_of_getElem? hi)

/-- the rows written into the index buffer -/
def strata (X : List Nat) (q : Nat) : List Nat := (vals X).flatMap fun x => (positions X x).take q

theorem mem_strata_lt {X : List Nat} {q i : Nat} (h : i ∈ strata X q) : i < X.length := by
  unfold strata at h
  obtain ⟨x, _, hi⟩ := List.mem_flatMap.1 h
  exact lt_of_mem_positions (List.mem_of_mem_take hi)

theorem strata_nodup (X : List Nat) (q : Nat) : (strata X q).Nodup :=
  -- a row number determines the value it is listed under
  ListAux.nodup_flatMap_of (fun i => X[i]?.getD 0) (vals_nodup X)
    (fun x _ => (positions_nodup X x).sublist (List.take_sublist _ _))
    fun x _ i hi => by rw [mem_positions.1 (List.mem_of_mem_take hi)]; rfl

theorem filter_take_positions (X : List Nat) (q v x : Nat) :
    ((positions X v).take q).filter (fun i => X[i]? == some x)
      = if v = x then (positions X x).take q else [] := by
  split
  · next h =>
    subst h
    rw [List.filter_eq_self]
    intro i hi
    simp [mem_positions.1 (List.mem_of_mem_take hi)]
  · next h =>
    rw [List.filter_eq_nil_iff]
    intro i hi
    rw [mem_positions.1 (List.mem_of_mem_take hi)]
    simpa using h

theorem flatMap_ite_of_nodup (L : List Nat) (x : Nat) : ∀ l : List Nat, l.Nodup →
    (l.flatMap fun v => if v = x then L else []) = if x ∈ l then L else []
  | [], _ => by simp
  | a :: t, h => by
    have hn := List.nodup_cons.1 h
    rw [List.flatMap_cons, flatMap_ite_of_nodup L x t hn.2]
    by_cases hax : a = x
    · subst hax
      simp [hn.1]
    · have : ¬ x = a := fun h => hax h.symm
      simp [hax, this]

theorem strata_filter (X : List Nat) (q x : Nat) :
    (strata X q).filter (fun i => X[i]? == some x) = (positions X x).take q := by
  unfold strata
  rw [List.filter_flatMap]
  simp only [filter_take_positions]
  rw [flatMap_ite_of_nodup _ _ _ (vals_nodup X)]
  split
  · rfl
  · next h =>
    rw [mem_vals] at h
    rw [positions_eq_nil h]; simp

theorem gather_init (A l : List Nat) (h : ∀ i ∈ l, i < A.length) :
    gather A (l.map Cell.init) = .ok (l.filterMap (A.toArray[·]?)) := by
  unfold gather
  -- the cell numbers only occur in error values: any start of the numbering will do for the induction
  generalize 0 = k
  induction l generalizing k with
  | nil => rfl
  | cons a t ih =>
    have ha : A.toArray[a]? = some (A[a]'(h a List.mem_cons_self)) := by
      rw [List.getElem?_toArray, List.getElem?_eq_getElem]
    rw [List.map_cons, List.zipIdx_cons, List.mapM_cons, ih (fun i hi => h i (List.mem_cons_of_mem _ hi)),
      List.filterMap_cons]
    simp only [ha]
    rfl

theorem indexBuffer_take (garb : Nat → Int) (X : List Nat) (rnum rden : Nat) :
    (indexBuffer garb X rnum rden).1.take (indexBuffer garb X rnum rden).2
      = (strata X (quota X.length (vals X).length rnum rden)).map Cell.init := by
  unfold indexBuffer strata quota
  exact List.take_left' (by simp)

theorem sampledRows_eq (X : List Nat) (rnum rden : Nat) :
    sampledRows X rnum rden =
      if quota X.length (vals X).length rnum rden = 0 then List.range X.length
      else strata X (quota X.length (vals X).length rnum rden) := rfl

theorem subsampleM_eq (garb : Nat → Int) (Y X : List Nat) (rnum rden : Nat) :
    subsampleM garb Y X rnum rden =
      if quota X.length (vals X).length rnum rden = 0 then .ok (Y, X) else
        (do
          let X' ← gather X ((strata X (quota X.length (vals X).length rnum rden)).map Cell.init)
          let Y' ← gather Y ((strata X (quota X.length (vals X).length rnum rden)).map Cell.init)
          pure (Y', X')) := by
  rw [← indexBuffer_take garb]
  rfl

theorem sampleSpec_of_quota_zero (Y X : List Nat) (rnum rden : Nat) (h : Y.length = X.length)
    (hq : quota X.length (vals X).length rnum rden = 0) : sampleSpec Y X rnum rden = (Y, X) := by
  unfold sampleSpec
  simp only [sampledRows_eq, hq, if_true, List.getElem?_toArray]
  rw [ListAux.range_filterMap_get X, ← h, ListAux.range_filterMap_get Y]

theorem sampleSpec_congr (Y Y' X : List Nat) (rnum rden : Nat)
    (hagree : ∀ i ∈ sampledRows X rnum rden, Y[i]? = Y'[i]?) :
    sampleSpec Y X rnum rden = sampleSpec Y' X rnum rden := by
  unfold sampleSpec
  simp only [List.getElem?_toArray]
  rw [ListAux.filterMap_congr hagree]

theorem vals_example : vals [0, 0, 0, 1] = [0, 1] := by
  -- `mergeSort` is defined by well-founded recursion and does not evaluate; the input is sorted already
  rw [vals, List.mergeSort_of_pairwise (le := fun x y => decide (x ≤ y)) (by decide)]
  rfl

end Smp
end MI
