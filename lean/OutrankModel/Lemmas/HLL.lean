import OutrankModel.Model.C14
import OutrankModel.Lemmas.ListAux
/-!
Helper lemmas for C14 (HyperLogLog with warm-up): the register-occupancy count and the
invariant of `run`, which determines size and phase from the SET of values consumed.
-/
namespace C14
open ListAux

variable {V : Type}

def RegOK (c : Cfg V) (hist : List V) (M : Array Nat) : Prop :=
  M.size = c.m ∧ ∀ j (h : j < M.size), M[j] ≠ 0 ↔ ∃ v ∈ hist, c.bucket v = j

theorem RegOK.congr {c : Cfg V} {h₁ h₂ : List V} {M : Array Nat} (h : ∀ v, v ∈ h₁ ↔ v ∈ h₂)
    (H : RegOK c h₁ M) : RegOK c h₂ M :=
  ⟨H.1, fun j hj => (H.2 j hj).trans (exists_congr fun v => and_congr_left fun _ => h v)⟩

theorem RegOK.update {c : Cfg V} (hr : ∀ v, 0 < c.rho v) {hist : List V} {M : Array Nat} (v : V)
    (H : RegOK c hist M) : RegOK c (hist ++ [v]) (update c M v) := by
  refine ⟨by simp [C14.update, H.1], fun j hj => ?_⟩
  have hj' : j < M.size := by simpa [C14.update] using hj
  simp only [C14.update, Array.getElem_modify, List.mem_append, List.mem_singleton, or_and_right, exists_or,
    exists_eq_left, ← H.2 j hj']
  -- the register of `v`'s bucket becomes non-zero (`rho v > 0`), the others keep their value
  split
  · next hb => exact ⟨fun _ => Or.inr hb, fun _ => Nat.ne_of_gt (Nat.lt_of_lt_of_le (hr v) (Nat.le_max_right _ _))⟩
  · next hb => exact ⟨Or.inl, fun h => h.resolve_right hb⟩

theorem regOK_convert {c : Cfg V} (hr : ∀ v, 0 < c.rho v) (s : List V) : RegOK c s (convert c s) :=
  foldl_hist (P := RegOK c) ⟨Array.size_replicate, fun j hj => by simp⟩ (fun _ _ v H => H.update hr v) s

theorem countP_toList_eq_length_filter_range (p : Nat → Bool) (M : Array Nat) :
    M.toList.countP p = ((List.range M.size).filter fun j => p M[j]!).length := by
  have hl : M.toList = (List.range M.size).map fun j => M[j]! :=
    List.ext_getElem (by simp) fun i h₁ _ => by simp [getElem!_pos M i (by simpa using h₁)]
  conv => lhs; rw [hl]
  rw [List.countP_map, List.countP_eq_length_filter]
  rfl

theorem RegOK.zeros_eq {c : Cfg V} (hb : ∀ v, c.bucket v < c.m) {hist : List V} {M : Array Nat}
    (H : RegOK c hist M) : zeros M = c.m - (hist.map c.bucket).eraseDups.length := by
  -- listed by index, the occupied registers are the distinct buckets
  have hocc : M.toList.countP (fun r => decide ¬((r == 0) = true)) = (hist.map c.bucket).eraseDups.length := by
    rw [countP_toList_eq_length_filter_range]
    refine length_eq_eraseDups_of_nodup_mem_iff (List.nodup_range.filter _) fun j => ?_
    rw [List.mem_filter, List.mem_range, List.mem_map]
    constructor
    · rintro ⟨hj, hne⟩
      exact (H.2 j hj).1 (by simpa [getElem!_pos M j hj] using hne)
    · rintro ⟨v, hv, e⟩
      have hj : j < M.size := H.1 ▸ e ▸ hb v
      exact ⟨hj, by simpa [getElem!_pos M j hj] using (H.2 j hj).2 ⟨v, hv, e⟩⟩
  rw [← H.1, ← Array.length_toList, List.length_eq_countP_add_countP (· == 0), hocc, Nat.add_sub_cancel]
  exact List.countP_eq_length_filter.symm

variable [DecidableEq V]

/-- invariant of `run` after consuming `hist`: the warm set is the distinct values in order of first arrival; the sketch phase
is entered exactly when there are more than `W` of them.  The hypothesis on `rho` stands inside the invariant, so that `inv_run`
and `Inv.isSketch_iff` hold for every hash. -/
def Inv (c : Cfg V) (hist : List V) : Sk V → Prop
  | .warm s => s = hist.eraseDups ∧ s.length ≤ c.W
  | .regs M => c.W < hist.eraseDups.length ∧ ((∀ v, 0 < c.rho v) → RegOK c hist M)

theorem Inv.add {c : Cfg V} {hist : List V} {st : Sk V} (v : V) (H : Inv c hist st) :
    Inv c (hist ++ [v]) (add c st v) := by
  cases st with
  | warm s =>
    obtain ⟨rfl, _⟩ := H
    simp only [C14.add, ← eraseDups_concat]
    split
    · next hlt => exact ⟨hlt, fun hr => (regOK_convert hr _).congr fun _ => List.mem_eraseDups⟩
    · next hge => exact ⟨rfl, Nat.le_of_not_lt hge⟩
  | regs M =>
    exact ⟨Nat.lt_of_lt_of_le H.1 (eraseDups_length_mono (List.subset_append_left _ _)), fun hr => (H.2 hr).update hr v⟩

theorem inv_run (c : Cfg V) (seq : List V) : Inv c seq (run c seq) :=
  foldl_hist (P := Inv c) (init := .warm []) ⟨rfl, Nat.zero_le _⟩ (fun _ _ v H => H.add v) seq

theorem Inv.isSketch_iff {c : Cfg V} {hist : List V} {st : Sk V} (H : Inv c hist st) :
    isSketch st = true ↔ c.W < hist.eraseDups.length := by
  cases st with
  | warm s => simpa [isSketch, ← H.1] using H.2
  | regs M => simp [isSketch, H.1]

theorem spec_of_le {c : Cfg V} (est : Nat → Nat) {seq : List V} (h : seq.eraseDups.length ≤ c.W) :
    spec c est seq = seq.eraseDups.length :=
  if_pos h

theorem spec_of_lt {c : Cfg V} (est : Nat → Nat) {seq : List V} (h : c.W < seq.eraseDups.length) :
    spec c est seq = est (c.m - (seq.map c.bucket).eraseDups.length) :=
  if_neg (Nat.not_le_of_lt h)

theorem Inv.len_eq_spec {c : Cfg V} {hist : List V} {st : Sk V} (H : Inv c hist st) (hb : ∀ v, c.bucket v < c.m)
    (hr : ∀ v, 0 < c.rho v) (est : Nat → Nat) : len est st = spec c est hist := by
  cases st with
  | warm s => rw [spec_of_le est (H.1 ▸ H.2), ← H.1]; rfl
  | regs M => rw [spec_of_lt est H.1, ← (H.2 hr).zeros_eq hb]; rfl

theorem spec_congr (c : Cfg V) (est : Nat → Nat) {seq seq' : List V} (h : ∀ v, v ∈ seq ↔ v ∈ seq') :
    spec c est seq = spec c est seq' := by
  have e₂ : (seq.map c.bucket).eraseDups.length = (seq'.map c.bucket).eraseDups.length :=
    eraseDups_length_congr fun j => by simp only [List.mem_map, h]
  simp only [spec, eraseDups_length_congr h, e₂]

theorem len_run_congr (c : Cfg V) (hb : ∀ v, c.bucket v < c.m) (hr : ∀ v, 0 < c.rho v) (est : Nat → Nat)
    {seq seq' : List V} (h : ∀ v, v ∈ seq ↔ v ∈ seq') : len est (run c seq) = len est (run c seq') := by
  rw [(inv_run c seq).len_eq_spec hb hr, (inv_run c seq').len_eq_spec hb hr, spec_congr c est h]

theorem bitLength_le {n k : Nat} (h : n < 2 ^ k) : bitLength n ≤ k := by
  unfold bitLength
  split
  · exact Nat.zero_le _
  · next hn => exact (Nat.log2_lt hn).2 h

end C14
