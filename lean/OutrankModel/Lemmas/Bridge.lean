/-! `bridge`: closing tactic for the bridge theorems of the source tie (DESIGN §11.1): goals are equalities between a generated
boolean / integer expression (already unfolded) and the model's expression.  It tries reflexivity, `grind`, `simp` then
`omega`, `omega` and, last, evaluation: propositional structure and linear integer arithmetic, so that semantically equal
rewrites of the source still check. -/
macro "bridge" : tactic => `(tactic| (first | rfl | grind | (simp; omega) | omega | decide))
