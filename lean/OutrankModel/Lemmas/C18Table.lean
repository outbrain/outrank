import Mathlib.Data.List.Basic
import OutrankModel.Lemmas.C18Median
/-! C18 – `medians` is a rearrangement of `groupMedian ∘ selectLabelRows ∘ sortRows`, and the median does not depend on row
order: names, membership and order of the table are read off the three stages. Under `WF` the code's `if`/`elif` selects
exactly the rows that pair a feature with the label. -/
namespace C18

theorem mem_dedup {x : Name} {l : List Name} : x ∈ dedup l ↔ x ∈ l := by
  induction l with
  | nil => exact Iff.rfl
  | cons y ys ih => by_cases e : x = y <;> simp [dedup, ih, e]

theorem nodup_dedup (l : List Name) : (dedup l).Nodup := by
  induction l with
  | nil => exact List.nodup_nil
  | cons y ys ih => exact List.nodup_cons.mpr ⟨fun h => by simpa using (List.mem_filter.mp h).2, ih.filter _⟩

theorem scoresOf_ne_nil {f : Name} {sel : Table} (h : f ∈ sel.map (·.1)) : scoresOf f sel ≠ [] := by
  obtain ⟨p, hp, rfl⟩ := List.mem_map.mp h
  exact List.ne_nil_of_mem (List.mem_map_of_mem (List.mem_filter.mpr ⟨hp, beq_self_eq_true _⟩))

theorem scoresOf_perm {f : Name} {s s' : Table} (h : s.Perm s') : (scoresOf f s).Perm (scoresOf f s') :=
  (h.filter _).map _

theorem names_groupMedian (sel : Table) : (groupMedian sel).map (·.1) = dedup (sel.map (·.1)) := by
  rw [groupMedian, List.map_filterMap]
  refine (List.filterMap_congr fun f hf => ?_).trans List.filterMap_some
  obtain ⟨m, hm⟩ := median_isSome' (scoresOf_ne_nil (mem_dedup.mp hf))
  rw [hm]; rfl

theorem mem_groupMedian {sel : Table} {f : Name} {m : Rat} :
    (f, m) ∈ groupMedian sel ↔ f ∈ sel.map (·.1) ∧ median (scoresOf f sel) = some m := by
  simp only [groupMedian, List.mem_filterMap, Option.map_eq_some_iff, Prod.mk.injEq, mem_dedup]
  constructor
  · rintro ⟨g, hg, m', hm', rfl, rfl⟩; exact ⟨hg, hm'⟩
  · rintro ⟨hf, hm⟩; exact ⟨f, hf, m, hm, rfl, rfl⟩

theorem sortDesc_perm (t : Table) : (sortDesc t).Perm t := Srt.isort_perm _ t

def Desc (t : Table) : Prop := t.Pairwise fun p q => q.2 ≤ p.2

theorem sortDesc_sorted (t : Table) : Desc (sortDesc t) :=
  Srt.isort_decide_pairwise (fun p q : Name × Rat => q.2 ≤ p.2) (fun _ _ _ h1 h2 => le_trans h2 h1)
    (fun _ _ => le_total _ _) t

theorem sortRows_perm (rows : List Row) : (sortRows rows).Perm rows := Srt.isort_perm _ rows

theorem select_perm {label : Name} {r r' : List Row} (h : r.Perm r') :
    (selectLabelRows label r).Perm (selectLabelRows label r') := h.filterMap _

/-- the loop body of `generate_final_ranking` records feature `f` for row `r` -/
def Contributes (label : Name) (r : Row) (f : Name) : Prop :=
  (isLabel label r.a = true ∧ r.b = f) ∨ (isLabel label r.a = false ∧ isLabel label r.b = true ∧ r.a = f)

theorem pick_eq_some_iff {label : Name} {r : Row} {p : Name × Rat} :
    pick label r = some p ↔ Contributes label r p.1 ∧ r.s = p.2 := by
  unfold pick Contributes
  cases isLabel label r.a
  · cases isLabel label r.b <;> simp [Prod.ext_iff]
  · simp [Prod.ext_iff]

theorem pick_snd {label : Name} {r : Row} {p : Name × Rat} (h : pick label r = some p) : p.2 = r.s :=
  (pick_eq_some_iff.mp h).2.symm

theorem mem_select_names {label : Name} {rows : List Row} {f : Name} :
    f ∈ (selectLabelRows label rows).map (·.1) ↔ ∃ r ∈ rows, Contributes label r f := by
  simp only [selectLabelRows, List.mem_map, List.mem_filterMap, pick_eq_some_iff]
  constructor
  · rintro ⟨p, ⟨r, hr, hc, _⟩, rfl⟩; exact ⟨r, hr, hc⟩
  · rintro ⟨r, hr, hc⟩; exact ⟨(f, r.s), ⟨r, hr, hc, rfl⟩, rfl⟩

theorem medians_perm (label : Name) (rows : List Row) :
    (medians label rows).Perm (groupMedian (selectLabelRows label (sortRows rows))) := sortDesc_perm _

theorem mem_medians {label : Name} {rows : List Row} {f : Name} {m : Rat} :
    (f, m) ∈ medians label rows ↔
      (∃ r ∈ rows, Contributes label r f) ∧ median (scoresOf f (selectLabelRows label rows)) = some m := by
  rw [(medians_perm label rows).mem_iff, mem_groupMedian, mem_select_names,
    median_perm' (scoresOf_perm (select_perm (sortRows_perm rows)))]
  simp only [(sortRows_perm rows).mem_iff]

theorem medians_names_nodup (label : Name) (rows : List Row) : ((medians label rows).map (·.1)).Nodup := by
  rw [((medians_perm label rows).map (·.1)).nodup_iff, names_groupMedian]
  exact nodup_dedup _

theorem medians_sorted (label : Name) (rows : List Row) : Desc (medians label rows) := sortDesc_sorted _

theorem mem_medians_names {label : Name} {rows : List Row} {f : Name} :
    f ∈ (medians label rows).map (·.1) ↔ ∃ r ∈ rows, Contributes label r f := by
  rw [((medians_perm label rows).map (·.1)).mem_iff, names_groupMedian, mem_dedup, mem_select_names]
  simp only [(sortRows_perm rows).mem_iff]

def WF (label L : Name) (rows : List Row) : Prop :=
  ∀ r ∈ rows, (isLabel label r.a = true ↔ r.a = L) ∧ (isLabel label r.b = true ↔ r.b = L)

instance (label L : Name) (rows : List Row) : Decidable (WF label L rows) := by
  unfold WF; infer_instance

/-- row `r` pairs feature `f` with the label (table name `L`), in either orientation -/
def Pairs (L f : Name) (r : Row) : Prop := (r.a = L ∧ r.b = f) ∨ (r.b = L ∧ r.a = f)

def labelScores (L f : Name) (rows : List Row) : List Rat :=
  rows.filterMap fun r => if (r.a = L ∧ r.b = f) ∨ (r.b = L ∧ r.a = f) then some r.s else none

theorem mem_labelScores {L f : Name} {rows : List Row} {x : Rat} :
    x ∈ labelScores L f rows ↔ ∃ r ∈ rows, Pairs L f r ∧ r.s = x := by
  simp only [labelScores, List.mem_filterMap, Pairs, Option.ite_none_right_eq_some, Option.some.injEq]

/-- the `elif` loses nothing on a well-formed row: `(L, L)` is the only row both tests accept, and both would record `L` -/
theorem contributes_iff_pairs {label L : Name} {r : Row}
    (hr : (isLabel label r.a = true ↔ r.a = L) ∧ (isLabel label r.b = true ↔ r.b = L)) (f : Name) :
    Contributes label r f ↔ Pairs L f r := by
  rw [Contributes, Pairs, ← Bool.not_eq_true, hr.1, hr.2]
  refine ⟨Or.imp_right And.right, fun h => h.elim Or.inl fun ⟨hb, ha⟩ => ?_⟩
  by_cases e : r.a = L
  · exact Or.inl ⟨e, hb.trans (e.symm.trans ha)⟩
  · exact Or.inr ⟨e, hb, ha⟩

theorem scoresOf_select_eq {label L : Name} {rows : List Row} (f : Name) (h : WF label L rows) :
    scoresOf f (selectLabelRows label rows) = labelScores L f rows := by
  unfold scoresOf selectLabelRows labelScores
  rw [List.filter_filterMap, List.map_filterMap]
  refine List.filterMap_congr fun r hr => Option.ext fun s => ?_
  simp only [Option.map_eq_some_iff, Option.filter_eq_some_iff, pick_eq_some_iff, contributes_iff_pairs (h r hr), Pairs,
    beq_iff_eq, Prod.exists, exists_eq_right, Option.ite_none_right_eq_some, Option.some.injEq]

theorem contributes_iff_of_WF {label L : Name} {rows : List Row} (h : WF label L rows) (f : Name) :
    (∃ r ∈ rows, Contributes label r f) ↔ ∃ r ∈ rows, Pairs L f r :=
  exists_congr fun r => and_congr_right fun hr => contributes_iff_pairs (h r hr) f

end C18
