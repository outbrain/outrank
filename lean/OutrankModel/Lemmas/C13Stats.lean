import Mathlib.Data.List.Nodup
import Mathlib.Algebra.Order.Field.Rat
import OutrankModel.Model.C13
import OutrankModel.Lemmas.HLL
import OutrankModel.Props.C15
/-!
Helper lemmas for C13: coverage arithmetic, the sketch feed as a set, the histogram of the bounded counter.
-/
namespace C13
open ListAux
variable {R V D : Type}

section Cov
variable [DecidableEq V]

theorem sum_count_nodup (L : List V) (hL : L.Nodup) (col : List V) :
    (L.map fun x => col.count x).sum = col.countP fun x => L.contains x := by
  induction col with
  | nil => simp
  | cons a col ih =>
    simp only [List.count_cons, beq_iff_eq, sum_map_add, ih, sum_map_ite_eq, hL.count, List.countP_cons,
      List.contains_iff_mem, Nat.mul_one]

theorem missingCount_eq (miss col : List V) : missingCount miss col = col.countP fun x => miss.contains x := by
  unfold missingCount
  rw [sum_count_nodup _ (nodup_eraseDups miss)]
  simp [List.mem_eraseDups]

theorem present_add_missing (miss col : List V) :
    (col.countP fun x => !(miss.contains x)) + missingCount miss col = col.length := by
  rw [missingCount_eq, List.length_eq_countP_add_countP (fun x => miss.contains x) (l := col), Nat.add_comm]
  simp

theorem covBatch_eq_spec (miss col : List V) (h : col ≠ []) : covBatch miss col = some (covSpec miss col) := by
  have hl : col.length ≠ 0 := fun e => h (List.length_eq_zero_iff.1 e)
  unfold covBatch covSpec
  rw [if_neg hl]
  congr 1
  have hq : ((col.length : Nat) : Rat) ≠ 0 := by exact_mod_cast hl
  have hs : ((col.countP fun x => !(miss.contains x) : Nat) : Rat) + (missingCount miss col : Rat) = (col.length : Rat) := by
    exact_mod_cast present_add_missing miss col
  rw [one_sub_div hq, ← hs, add_sub_cancel_right, div_mul_eq_mul_div, mul_comm]

theorem covSpec_range (miss col : List V) : 0 ≤ covSpec miss col ∧ covSpec miss col ≤ 100 :=
  ⟨div_nonneg (mul_nonneg (Nat.ofNat_nonneg _) (Nat.cast_nonneg _)) (Nat.cast_nonneg _),
    div_le_of_le_mul₀ (Nat.cast_nonneg _) (Nat.ofNat_nonneg _)
      (mul_le_mul_of_nonneg_left (Nat.cast_le.2 List.countP_le_length) (Nat.ofNat_nonneg _))⟩

end Cov

section Card
variable [DecidableEq V] [DecidableEq D]

theorem cardSketch_eq_run (c : C14.Cfg D) (truthy : V → Bool) (ih : V → D) (f : R → V) (batches : List (List R)) :
    cardSketch c truthy ih f batches = C14.run c (cardFeed truthy ih f batches) := by
  unfold cardSketch C14.run cardFeed
  rw [List.foldl_flatMap]

omit [DecidableEq D] in
theorem mem_cardFeed (truthy : V → Bool) (ih : V → D) (f : R → V) (batches : List (List R)) (x : D) :
    x ∈ cardFeed truthy ih f batches ↔ x ∈ ((batches.flatten.map f).filter truthy).map ih := by
  simp only [cardFeed, batchFeed, List.mem_flatMap, List.mem_map, List.mem_filter, List.mem_eraseDups, List.mem_flatten]
  constructor
  · rintro ⟨b, hb, v, ⟨⟨r, hr, rfl⟩, ht⟩, rfl⟩
    exact ⟨f r, ⟨⟨r, ⟨b, hb, hr⟩, rfl⟩, ht⟩, rfl⟩
  · rintro ⟨v, ⟨⟨r, ⟨b, hb, hr⟩, rfl⟩, ht⟩, rfl⟩
    exact ⟨b, hb, f r, ⟨⟨r, hr, rfl⟩, ht⟩, rfl⟩

end Card

section Hist
variable [DecidableEq V]

theorem histAt_le (bound : Nat) (col : List V) (t : Nat) :
    histAt ((C15.Ctr.empty : C15.Ctr V).run bound col) t ≤ histSpecAt col t := by
  have H := C15.cinv_run bound col
  refine (H.nodup.filter _).length_le_of_subset fun k hk => ?_
  rw [List.mem_filter, decide_eq_true_eq] at hk ⊢
  exact ⟨List.mem_eraseDups.2 (H.mem_hist hk.1), Nat.lt_of_lt_of_le hk.2 (H.cnt_le k)⟩

theorem histAt_exact (bound : Nat) (col : List V) (h : col.eraseDups.length < bound) (t : Nat) :
    histAt ((C15.Ctr.empty : C15.Ctr V).run bound col) t = histSpecAt col t := by
  refine Nat.le_antisymm (histAt_le bound col t) ?_
  have H := C15.cinv_run bound col
  refine ((nodup_eraseDups col).filter _).length_le_of_subset fun k hk => ?_
  rw [List.mem_filter, decide_eq_true_eq] at hk ⊢
  rw [H.mem_keys, C15.exact_below_bound bound col h k]
  exact ⟨Nat.zero_lt_of_lt hk.2, hk.2⟩

end Hist
end C13
