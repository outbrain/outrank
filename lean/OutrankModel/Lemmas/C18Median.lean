import Mathlib.Algebra.Order.Field.Rat
import OutrankModel.Model.C18
/-! C18 – the median: well-defined on non-empty lists, a function of the multiset, the middle of ANY ascending
arrangement, unchanged when every value is doubled (both orientations of a pair present). -/
namespace C18

theorem isort_leR_sorted (l : List Rat) : (Srt.isort leR l).Pairwise (· ≤ ·) :=
  Srt.isort_decide_pairwise (· ≤ ·) (fun _ _ _ => le_trans) le_total l

/-- an ascending list is determined by its multiset, so ANY ascending arrangement of `l` is `isort leR l` -/
theorem median_eq_of_sorted_perm' {l s : List Rat} (hp : s.Perm l) (hs : s.Pairwise (· ≤ ·)) :
    median l = medianSorted s :=
  congrArg medianSorted (List.Perm.eq_of_pairwise (fun _ _ _ _ h1 h2 => le_antisymm h1 h2) (isort_leR_sorted l) hs
    ((Srt.isort_perm leR l).trans hp.symm))

theorem median_perm' {l l' : List Rat} (h : l.Perm l') : median l = median l' :=
  median_eq_of_sorted_perm' ((Srt.isort_perm leR l').trans h.symm) (isort_leR_sorted l')

theorem pred_div_two_of_even {n : Nat} (h : ¬ n % 2 = 1) : (n - 1) / 2 = n / 2 - 1 := by
  cases n with
  | zero => rfl
  | succ m =>
    rw [Nat.succ_div_of_dvd (Nat.dvd_of_mod_eq_zero ((Nat.mod_two_eq_zero_or_one _).resolve_right h))]; rfl

/-- one closed form for both parities: the indices `(n - 1) / 2` and `n / 2` coincide for odd `n` -/
theorem medianSorted_eq (s : List Rat) :
    medianSorted s = s[(s.length - 1) / 2]?.bind fun a => s[s.length / 2]?.map fun b => (a + b) / 2 := by
  by_cases h : s.length % 2 = 1
  · rw [medianSorted, if_pos h, Nat.div_eq_sub_mod_div (m := s.length), h]
    cases s[(s.length - 1) / 2]? with
    | none => rfl
    | some a => exact congrArg some (add_self_div_two a).symm
  · rw [medianSorted, if_neg h, pred_div_two_of_even h]
    cases s[s.length / 2 - 1]? <;> cases s[s.length / 2]? <;> rfl

theorem median_eq_mean {l : List Rat} (h : l ≠ []) : ∃ a ∈ l, ∃ b ∈ l, median l = some ((a + b) / 2) := by
  have hp := Srt.isort_perm leR l
  have hn : 0 < (Srt.isort leR l).length := hp.length_eq ▸ List.length_pos_iff.mpr h
  have h1 := Nat.lt_of_le_of_lt (Nat.div_le_self _ 2) (Nat.sub_lt hn Nat.one_pos)
  have h2 := Nat.div_lt_self hn Nat.one_lt_two
  refine ⟨_, hp.mem_iff.mp (List.getElem_mem h1), _, hp.mem_iff.mp (List.getElem_mem h2), ?_⟩
  rw [median, medianSorted_eq, List.getElem?_eq_getElem h1, List.getElem?_eq_getElem h2]
  rfl

theorem median_isSome' {l : List Rat} (h : l ≠ []) : ∃ m, median l = some m := by
  obtain ⟨_, _, _, _, hm⟩ := median_eq_mean h
  exact ⟨_, hm⟩

theorem median_const {l : List Rat} {v : Rat} (hne : l ≠ []) (h : ∀ x ∈ l, x = v) : median l = some v := by
  obtain ⟨a, ha, b, hb, hm⟩ := median_eq_mean hne
  rw [hm, h a ha, h b hb, add_self_div_two]

theorem median_nil : median [] = none := by decide

def dbl : List Rat → List Rat
  | [] => []
  | x :: xs => x :: x :: dbl xs

theorem dbl_perm (l : List Rat) : (dbl l).Perm (l ++ l) := by
  induction l with
  | nil => exact List.Perm.refl _
  | cons x xs ih => exact ((ih.cons x).trans List.perm_middle.symm).cons x

theorem dbl_sorted {l : List Rat} (h : l.Pairwise (· ≤ ·)) : (dbl l).Pairwise (· ≤ ·) := by
  induction l with
  | nil => exact List.Pairwise.nil
  | cons x xs ih =>
    have hx : ∀ y ∈ dbl xs, x ≤ y := fun y hy =>
      (List.pairwise_cons.mp h).1 y (by simpa using (dbl_perm xs).mem_iff.mp hy)
    exact .cons (List.forall_mem_cons.mpr ⟨le_refl x, hx⟩) (.cons hx (ih h.of_cons))

theorem dbl_getElem? (l : List Rat) (i : Nat) : (dbl l)[i]? = l[i / 2]? := by
  induction l generalizing i with
  | nil => rfl
  | cons x xs ih =>
    match i with
    | 0 => rfl
    | 1 => rfl
    | i + 2 => rw [Nat.add_div_right i Nat.two_pos]; exact ih i

/-- `dbl s` has even length `2 n`; its middle entries `n - 1`, `n` are the entries `(n - 1) / 2`, `n / 2` of `s` -/
theorem medianSorted_dbl (s : List Rat) : medianSorted (dbl s) = medianSorted s := by
  have hl : (dbl s).length = 2 * s.length := by rw [(dbl_perm s).length_eq, List.length_append, Nat.two_mul]
  rw [medianSorted_eq, hl, pred_div_two_of_even (by rw [Nat.mul_mod_right]; decide),
    Nat.mul_div_cancel_left _ Nat.two_pos, dbl_getElem?, dbl_getElem?, ← medianSorted_eq]

theorem median_append_self (l : List Rat) : median (l ++ l) = median l := by
  rw [median_eq_of_sorted_perm' ((dbl_perm _).trans ((Srt.isort_perm leR l).append (Srt.isort_perm leR l)))
    (dbl_sorted (isort_leR_sorted l)), medianSorted_dbl]
  rfl

end C18
