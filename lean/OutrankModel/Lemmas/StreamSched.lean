import OutrankModel.Lemmas.StreamAgg
/-!
Helper lemmas for C09: schedules (shuffle, completion order) and column order only rearrange the rows; what the rows
of a batch are (`canonRows`; also the form in which Lemmas/Pipeline reads a batch of the end-to-end model).  Core Lean only.
-/
namespace Stream
variable {ν σ : Type}

theorem mirror_perm {ts ts' : List (ν × ν × σ)} (h : ts.Perm ts') : (mirror ts).Perm (mirror ts') :=
  h.flatMap_right _

/-- a schedule that neither loses nor invents work: both of its components only rearrange -/
def Sched.Valid (s : Sched ν σ) : Prop := (∀ l, (s.sh l).Perm l) ∧ (∀ l, (s.done l).Perm l)

/-- the rows of a batch in the order of the unshuffled combination list, results taken in submission order -/
def canonRows (f : ν × ν → σ) (cs : List (ν × ν)) : List ((ν × ν) × σ) :=
  mirror (cs.map fun p => (p.1, p.2, f p))

theorem canonRows_eq (f : ν × ν → σ) (cs : List (ν × ν)) :
    canonRows f cs = cs.flatMap fun p => [((p.2, p.1), f p), ((p.1, p.2), f p)] := by
  simp [canonRows, mirror, List.flatMap_map]

theorem mem_canonRows (f : ν × ν → σ) (cs : List (ν × ν)) (k : ν × ν) (s : σ) :
    (k, s) ∈ canonRows f cs ↔ ∃ p ∈ cs, (k = p ∨ k = (p.2, p.1)) ∧ s = f p := by
  simp only [canonRows_eq, List.mem_flatMap, List.mem_cons, Prod.mk.injEq, List.not_mem_nil, or_false, ← or_and_right]
  exact exists_congr fun p => and_congr_right fun _ => and_congr_left fun _ => or_comm

theorem exists_mem_canonRows (f : ν × ν → σ) (cs : List (ν × ν)) (a b : ν) :
    (∃ s, ((a, b), s) ∈ canonRows f cs) ↔ (a, b) ∈ cs ∨ (b, a) ∈ cs := by
  simp only [mem_canonRows]
  constructor
  · rintro ⟨_, ⟨x, y⟩, hp, h | h, _⟩
    · exact .inl (h ▸ hp)
    · cases h
      exact .inr hp
  · rintro (h | h)
    · exact ⟨_, _, h, .inl rfl, rfl⟩
    · exact ⟨_, _, h, .inr rfl, rfl⟩

theorem scoresOf_canonRows_swap [DecidableEq ν] (f : ν × ν → σ) (cs : List (ν × ν)) (a b : ν) :
    scoresOf (canonRows f cs) (a, b) = scoresOf (canonRows f cs) (b, a) := by
  rw [canonRows_eq, List.flatMap_def, scoresOf_flatten, scoresOf_flatten]
  refine congrArg _ (List.map_congr_left fun p _ => ?_)
  obtain ⟨x, y⟩ := p
  simp only [scoresOf_cons, Prod.mk.injEq, and_comm (a := y = b), and_comm (a := x = b)]
  split <;> split <;> rfl

theorem batchRows_canon (s : Sched ν σ) (hs : s.Valid) (f : ν × ν → σ) (cs : List (ν × ν)) :
    (batchRows s f cs).Perm (canonRows f cs) :=
  mirror_perm ((hs.2 _).trans ((hs.1 cs).map _))

theorem allRows_canon : ∀ (items : List (Sched ν σ × (ν × ν → σ) × List (ν × ν))),
    (∀ it ∈ items, it.1.Valid) →
    (allRows items).Perm ((items.map (·.2)).flatMap fun fc => canonRows fc.1 fc.2)
  | [], _ => .refl _
  | it :: rest, h =>
    (batchRows_canon it.1 (h it List.mem_cons_self) it.2.1 it.2.2).append
      (allRows_canon rest fun x hx => h x (List.mem_cons_of_mem _ hx))

theorem flatMap_filter {α β : Type} (p : α → Bool) (f : α → List β) (l : List α) :
    (l.filter p).flatMap f = l.flatMap fun x => if p x then f x else [] := by
  induction l with
  | nil => rfl
  | cons x l ih => by_cases h : p x <;> simp [h, ih]

theorem cwr_flatMap_cons {τ : Type} (F : ν → ν → List τ) (a : ν) (l : List ν) :
    (cwr (a :: l)).flatMap (fun p => F p.1 p.2) = F a a ++ l.flatMap (F a) ++ (cwr l).flatMap fun p => F p.1 p.2 := by
  simp [cwr, List.flatMap_append, List.flatMap_map]

theorem cwr_flatMap_perm {τ : Type} [DecidableEq τ] (F : ν → ν → List τ) (hF : ∀ a b, (F a b).Perm (F b a))
    {cols cols' : List ν} (hp : cols.Perm cols') :
    ((cwr cols).flatMap fun p => F p.1 p.2).Perm ((cwr cols').flatMap fun p => F p.1 p.2) := by
  induction hp with
  | nil => exact .refl _
  | cons a hl ih =>
    rw [cwr_flatMap_cons, cwr_flatMap_cons]
    exact ((List.Perm.refl _).append (hl.flatMap_right _)).append ih
  | swap a b l =>
    -- both sides are made of the same blocks, but for `F b a` against `F a b`: compare counts
    simp only [cwr_flatMap_cons, List.flatMap_cons, List.perm_iff_count, List.count_append]
    intro x
    have := (hF a b).count_eq x
    omega
  | trans _ _ ih1 ih2 => exact ih1.trans ih2

variable [DecidableEq ν]

/-- `generate_data_for_ranking` gives both orientations of a pair the same score when the pair contains the label (the
label goes second) or the heuristic is symmetric on it -/
theorem scoreOf_swap (label : ν) (g : ν → ν → σ) (a b : ν) (h : a = label ∨ b = label ∨ g a b = g b a) :
    scoreOf label g (a, b) = scoreOf label g (b, a) := by
  unfold scoreOf
  by_cases ha : a = label <;> by_cases hb : b = label <;> simp_all

/-- the two rows of the pair `(a, b)` if it is ranked: with `target_ranking_only` only pairs with the label are -/
def pairRows (targetOnly : Bool) (label : ν) (g : ν → ν → σ) (a b : ν) : List ((ν × ν) × σ) :=
  if targetOnly → a = label ∨ b = label then [((b, a), scoreOf label g (a, b)), ((a, b), scoreOf label g (a, b))] else []

theorem colRows_eq (targetOnly : Bool) (label : ν) (g : ν → ν → σ) (cols : List ν) :
    colRows targetOnly label g cols = ((cwr cols).flatMap fun p => pairRows targetOnly label g p.1 p.2)
      ++ if targetOnly then [] else (cols.filter (· ≠ label)).flatMap fun c => pairRows false label g c c := by
  cases targetOnly
  · simp [colRows, combos, mirror, pairRows, List.flatMap_append, List.flatMap_map]
  · simp [colRows, combos, mirror, pairRows, List.flatMap_map, flatMap_filter]

theorem colRows_perm [DecidableEq σ] (targetOnly : Bool) (label : ν) (g : ν → ν → σ)
    (hsym : targetOnly = true ∨ ∀ a b, g a b = g b a) {cols cols' : List ν} (hp : cols.Perm cols') :
    (colRows targetOnly label g cols).Perm (colRows targetOnly label g cols') := by
  rw [colRows_eq, colRows_eq]
  refine (cwr_flatMap_perm _ (fun a b => ?_) hp).append ?_
  · unfold pairRows
    by_cases h : targetOnly = true → a = label ∨ b = label
    · have hs : a = label ∨ b = label ∨ g a b = g b a :=
        hsym.elim (fun ht => (h ht).imp_right .inl) fun hg => .inr (.inr (hg a b))
      rw [if_pos h, if_pos fun ht => (h ht).symm, scoreOf_swap label g a b hs]
      exact .swap ..
    · rw [if_neg h, if_neg fun h' => h fun ht => (h' ht).symm]
  · cases targetOnly
    · exact (hp.filter _).flatMap_right _
    · exact .refl _

end Stream
