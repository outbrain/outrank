import Mathlib.Data.List.Nodup
import Mathlib.Data.List.Perm.Subperm
import OutrankModel.Lemmas.C18Norm
/-! C18 – interaction names: `splitOn sepAND` inverts `joinAND` on constituents without a space, `beforeDash` drops the annotation.
Aggregation: `storePairs` holds one pair per occurrence of a constituent. Checker: `nodupB`, `sortedDescB`, `closeTo` are the
propositions they decide; `matchesB` at tolerance 0 gives a permutation of the model table (`matchesB_exact`), and a permutation
of a model table with distinct names passes at any tolerance ≥ 0 (`matchesB_of_perm`). -/
namespace C18

theorem beforeDash_append {x : Name} (h : '-' ∉ x) (y : Name) : beforeDash (x ++ y) = x ++ beforeDash y :=
  List.takeWhile_append_of_pos fun _ hc => bne_iff_ne.mpr fun e => h (e ▸ hc)

theorem beforeDash_of_no_dash {x : Name} (h : '-' ∉ x) : beforeDash x = x := by
  rw [← List.append_nil x, beforeDash_append h]; rfl

theorem beforeDash_append_dash {x : Name} (h : '-' ∉ x) (y : Name) : beforeDash (x ++ '-' :: y) = x := by
  rw [beforeDash_append h]; exact List.append_nil x

theorem dash_not_mem_beforeDash (n : Name) : '-' ∉ beforeDash n :=
  fun h => by simpa using List.all_eq_true.mp List.all_takeWhile _ h

/-- `" AND ".join(cs)` -/
def joinAND : List Name → Name
  | [] => []
  | [c] => c
  | c :: d :: cs => c ++ sepAND ++ joinAND (d :: cs)

theorem splitGo_nospace (c rest cur : List Char) (hc : ' ' ∉ c) :
    splitGo sepAND (c ++ rest) 0 cur = splitGo sepAND rest 0 (c.reverse ++ cur) := by
  induction c generalizing cur with
  | nil => rfl
  | cons x xs ih =>
    have hpre : sepAND.isPrefixOf (x :: (xs ++ rest)) = false :=
      (congrArg (· && _) (beq_false_of_ne fun e : ' ' = x => hc (e ▸ List.mem_cons_self))).trans (Bool.false_and _)
    rw [List.cons_append, splitGo, hpre, if_neg Bool.false_ne_true, ih _ fun e => hc (List.mem_cons_of_mem _ e),
      List.reverse_cons, List.append_assoc]
    rfl

theorem splitGo_sep (rest cur : List Char) :
    splitGo sepAND (sepAND ++ rest) 0 cur = cur.reverse :: splitGo sepAND rest 0 [] := rfl

theorem splitGo_join (c : Name) (cs : List Name) (cur : List Char) (h : ∀ x ∈ c :: cs, ' ' ∉ x) :
    splitGo sepAND (joinAND (c :: cs)) 0 cur = (cur.reverse ++ c) :: cs := by
  induction cs generalizing c cur with
  | nil =>
    have := splitGo_nospace c [] cur (h c List.mem_cons_self)
    rw [List.append_nil] at this
    rw [joinAND, this, splitGo, List.reverse_append, List.reverse_reverse]
  | cons d ds ih =>
    rw [joinAND, List.append_assoc, splitGo_nospace _ _ _ (h c List.mem_cons_self), splitGo_sep,
      ih d [] fun x hx => h x (List.mem_cons_of_mem _ hx), List.reverse_append, List.reverse_reverse]
    rfl

theorem dash_not_mem_joinAND {cs : List Name} (h : ∀ x ∈ cs, '-' ∉ x) : '-' ∉ joinAND cs := by
  induction cs with
  | nil => exact List.not_mem_nil
  | cons c ds ih =>
    have := ih fun x hx => h x (List.mem_cons_of_mem _ hx)
    cases ds with
    | nil => exact h c List.mem_cons_self
    | cons d ds =>
      simp only [joinAND, List.mem_append, not_or]
      exact ⟨⟨h c List.mem_cons_self, by decide⟩, this⟩

theorem splitOn_joinAND {cs : List Name} (hne : cs ≠ []) (h : ∀ x ∈ cs, ' ' ∉ x) : splitOn sepAND (joinAND cs) = cs := by
  obtain ⟨c, ds, rfl⟩ := List.exists_cons_of_ne_nil hne
  rw [splitOn, splitGo_join c ds [] h]; rfl

theorem hasInfix_iff (pat l : List Char) : hasInfix pat l = true ↔ pat <:+: l := by
  induction l with
  | nil => rw [hasInfix, List.isEmpty_iff, List.infix_nil]
  | cons c cs ih => rw [hasInfix, Bool.or_eq_true, ih, List.isPrefixOf_iff_prefix, List.infix_cons_iff]

theorem mem_storePairs_names {t : Table} {k : Name} :
    k ∈ (storePairs t).map (·.1) ↔ ∃ p ∈ t, isInteraction p.1 = true ∧ k ∈ constituents p.1 := by
  simp only [storePairs, List.map_flatMap, List.mem_flatMap]
  refine exists_congr fun p => and_congr_right fun _ => ?_
  split <;> simp [*]

/-- the scores appended to `feature_store[k]`: one per occurrence of `k` among the constituents of an interaction -/
def storeScores (k : Name) (t : Table) : List Rat :=
  t.flatMap fun p => if isInteraction p.1 then ((constituents p.1).filter (· == k)).map fun _ => p.2 else []

theorem scoresOf_storePairs (k : Name) (t : Table) : scoresOf k (storePairs t) = storeScores k t := by
  unfold scoresOf storePairs storeScores
  rw [List.filter_flatMap, List.map_flatMap]
  congr 1; funext p
  split
  · rw [List.filter_map, List.map_map]; rfl
  · rfl

/-- with distinct constituents: the scores of the interactions `k` takes part in -/
def interactionScores (k : Name) (t : Table) : List Rat :=
  (t.filter fun p => isInteraction p.1 && (constituents p.1).contains k).map (·.2)

theorem lookup_mem {f : Name} {t : Table} {v : Rat} (h : lookup f t = some v) : (f, v) ∈ t := by
  induction t with
  | nil => cases h
  | cons p ps ih =>
    rw [lookup] at h
    split at h
    · cases h; exact beq_iff_eq.mp ‹_› ▸ List.mem_cons_self
    · exact List.mem_cons_of_mem _ (ih h)

theorem lookup_of_mem_nodup {t : Table} (hn : (t.map (·.1)).Nodup) {p : Name × Rat} (hp : p ∈ t) :
    lookup p.1 t = some p.2 := by
  induction t with
  | nil => cases hp
  | cons q qs ih =>
    rw [List.map_cons, List.nodup_cons] at hn
    rcases List.mem_cons.mp hp with rfl | hp
    · exact if_pos (beq_self_eq_true _)
    · exact (if_neg fun e => hn.1 (List.mem_map.mpr ⟨p, hp, (beq_iff_eq.mp e).symm⟩)).trans (ih hn.2 hp)

theorem nodupB_iff (l : List Name) : nodupB l = true ↔ l.Nodup := by
  induction l with
  | nil => simp [nodupB]
  | cons x xs ih => simp [nodupB, ih, List.nodup_cons]

/-- the adjacent-pair test is a chain condition; a chain of a transitive relation is pairwise -/
theorem sortedDescB_iff (t : Table) : sortedDescB t = true ↔ Desc t := by
  have : Trans (fun p q : Name × Rat => q.2 ≤ p.2) (fun p q : Name × Rat => q.2 ≤ p.2)
      (fun p q : Name × Rat => q.2 ≤ p.2) := ⟨fun h1 h2 => le_trans h2 h1⟩
  rw [Desc, ← List.isChain_iff_pairwise]
  induction t with
  | nil => simp [sortedDescB]
  | cons p ps ih =>
    cases ps with
    | nil => simp [sortedDescB]
    | cons q qs => simp [sortedDescB, leR, ih]

theorem rabs_eq_abs (x : Rat) : rabs x = |x| :=
  if h : 0 ≤ x then (if_pos h).trans (abs_of_nonneg h).symm else (if_neg h).trans (abs_of_neg (not_le.mp h)).symm

theorem closeTo_iff {tol v e : Rat} : closeTo tol v e = true ↔ |v - e| ≤ tol * (1 + |e|) := by
  rw [closeTo, decide_eq_true_iff, rabs_eq_abs, rabs_eq_abs]

theorem closeTo_zero {v e : Rat} (h : closeTo 0 v e = true) : v = e := by
  rw [closeTo_iff, zero_mul] at h
  exact sub_eq_zero.mp (abs_nonpos_iff.mp h)

theorem closeTo_self {tol e : Rat} (h : 0 ≤ tol) : closeTo tol e e = true := by
  rw [closeTo_iff, sub_self, abs_zero]
  exact mul_nonneg h (add_nonneg zero_le_one (abs_nonneg e))

theorem matchesB_exact {model out : Table} (h : matchesB 0 model out = true) : out.Perm model := by
  unfold matchesB at h
  simp only [Bool.and_eq_true, beq_iff_eq, List.all_eq_true, nodupB_iff] at h
  obtain ⟨⟨hlen, hnd⟩, hall⟩ := h
  have hsub : out ⊆ model := fun p hp => by
    have := hall p hp
    split at this
    · rename_i e he
      have hm := lookup_mem he
      rwa [← closeTo_zero this] at hm
    · cases this
  exact (List.subperm_of_subset (List.Nodup.of_map _ hnd) hsub).perm_of_length_le (le_of_eq hlen.symm)

theorem matchesB_of_perm {tol : Rat} (htol : 0 ≤ tol) {model out : Table} (hm : (model.map (·.1)).Nodup)
    (hp : out.Perm model) : matchesB tol model out = true := by
  unfold matchesB
  simp only [Bool.and_eq_true, beq_iff_eq, List.all_eq_true, nodupB_iff]
  refine ⟨⟨hp.length_eq, (hp.map _).nodup_iff.mpr hm⟩, fun p hp' => ?_⟩
  rw [lookup_of_mem_nodup hm (hp.subset hp')]
  exact closeTo_self htol

end C18
