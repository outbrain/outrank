import Mathlib.Algebra.Order.Ring.Rat
import Mathlib.Data.List.MinMax
import Mathlib.Data.List.Nodup
import Mathlib.Data.List.Perm.Subperm
import OutrankModel.Model.C17
/-!
C17 (greedy 3MR ranking), generic in the relevance `relv` and the objective `score` (arbitrary functions into `Rat`).
The scan `pick` is `List.argmax`; the loop keeps one invariant (`Inv`: a sub-multiset of the keys, each entry maximal at its position),
which every append maintains (`Inv.concat`); permutation, head and step property are read off it.
-/
namespace C17

theorem pickGo_eq_argAux (s : Nat → Rat) (l : List Nat) : ∀ o : Option Nat,
    pickGo s (o.map fun g => (g, s g)) l = (l.foldl (List.argAux fun b c => s c < s b) o).map fun g => (g, s g) := by
  induction l with
  | nil => exact fun o => rfl
  | cons f fs ih =>
    intro o
    cases o with
    | none => exact ih (some f)
    | some g =>
      rw [List.foldl_cons, Option.map_some, pickGo,
        show List.argAux (fun b c => s c < s b) (some g) f = if s g < s f then some f else some g from rfl]
      by_cases h : s g < s f
      · rw [if_pos h, if_pos h]; exact ih (some f)
      · rw [if_neg h, if_neg h]; exact ih (some g)

theorem pick_eq_argmax (s : Nat → Rat) (l : List Nat) : pick s l = l.argmax s := by
  rw [pick, show (none : Option (Nat × Rat)) = (none : Option Nat).map (fun g => (g, s g)) from rfl, pickGo_eq_argAux,
    Option.map_map]
  exact Option.map_id' ..

theorem pick_spec {s : Nat → Rat} {l : List Nat} {f : Nat} (h : pick s l = some f) :
    f ∈ l ∧ ∀ x ∈ l, s x ≤ s f := by
  rw [pick_eq_argmax] at h
  exact ⟨List.argmax_mem h, fun x hx => List.le_of_mem_argmax hx h⟩

theorem pick_eq_none {s : Nat → Rat} {l : List Nat} (h : pick s l = none) : l = [] :=
  List.argmax_eq_none.mp (pick_eq_argmax s l ▸ h)

theorem mem_remaining {ks ranked : List Nat} {f : Nat} : f ∈ remaining ks ranked ↔ f ∈ ks ∧ f ∉ ranked := by
  simp [remaining]

theorem remaining_ne_nil {ks ranked : List Nat} (hks : ks.Nodup)
    (hlen : ranked.length < ks.length) : remaining ks ranked ≠ [] := by
  intro he
  have hsub : ks ⊆ ranked := fun x hx => by
    by_contra hn
    exact List.not_mem_nil (he ▸ mem_remaining.mpr ⟨hx, hn⟩)
  exact absurd (List.subperm_of_subset hks hsub).length_le (Nat.not_le_of_lt hlen)

/-- position `k` of `r` holds a maximiser of the criterion among the keys not placed before it -/
def PosOk (ks : List Nat) (relv : Nat → Rat) (score : List Nat → Nat → Rat) (r : List Nat) (k : Nat) : Prop :=
  ∀ f, r[k]? = some f → ∀ g ∈ ks, g ∉ r.take k → crit relv score (r.take k) g ≤ crit relv score (r.take k) f

def PosStrict (ks : List Nat) (relv : Nat → Rat) (score : List Nat → Nat → Rat) (r : List Nat) (k : Nat) : Prop :=
  ∀ f, r[k]? = some f → ∀ g ∈ ks, g ∉ r.take k → g ≠ f → crit relv score (r.take k) g < crit relv score (r.take k) f

section
variable {ks : List Nat} {relv : Nat → Rat} {score : List Nat → Nat → Rat}

theorem posOk_of_length_le {r : List Nat} {k : Nat} (h : r.length ≤ k) : PosOk ks relv score r k := by
  intro f hget
  rw [List.getElem?_eq_none h] at hget
  cases hget

theorem posOk_concat {r : List Nat} {f : Nat} (h1 : ∀ k, PosOk ks relv score r k)
    (h2 : ∀ g ∈ ks, g ∉ r → crit relv score r g ≤ crit relv score r f) (k : Nat) :
    PosOk ks relv score (r ++ [f]) k := by
  rcases Nat.lt_trichotomy k r.length with hk | rfl | hk
  · unfold PosOk
    rw [List.getElem?_append_left hk, List.take_append_of_le_length (Nat.le_of_lt hk)]
    exact h1 k
  · unfold PosOk
    rw [List.getElem?_concat_length, List.take_left' rfl]
    exact fun f' hf' => Option.some.inj hf' ▸ h2
  · exact posOk_of_length_le (by rw [List.length_append]; exact hk)

def Inv (ks : List Nat) (relv : Nat → Rat) (score : List Nat → Nat → Rat) (r : List Nat) : Prop :=
  r.Subperm ks ∧ ∀ k, PosOk ks relv score r k

/-- serves the head (`r = []`, `l = ks`, criterion `relv`) and every iteration (`l = io (remaining ks r)`) -/
theorem Inv.concat {r l : List Nat} {f : Nat} (hr : Inv ks relv score r) (hl : ∀ g, g ∈ l ↔ g ∈ ks ∧ g ∉ r)
    (hp : pick (crit relv score r) l = some f) : Inv ks relv score (r ++ [f]) := by
  obtain ⟨hf, hmax⟩ := pick_spec hp
  obtain ⟨hfk, hfr⟩ := (hl f).mp hf
  exact ⟨(List.perm_append_singleton f r).subperm_right.mpr (List.cons_subperm_of_not_mem_of_mem hfr hfk hr.1),
    posOk_concat hr.2 fun g hg hgn => hmax g ((hl g).mpr ⟨hg, hgn⟩)⟩

/-- `ranked ≠ []`: on the empty prefix `crit` is the relevance, while the loop always picks by `score` -/
theorem loop_inv (io : List Nat → List Nat) (hio : ∀ l, (io l).Perm l) (hks : ks.Nodup) (fuel : Nat) :
    ∀ (ranked : List Nat), ranked ≠ [] → Inv ks relv score ranked → ranked.length + fuel = ks.length →
      Inv ks relv score (loop score io ks fuel ranked) ∧ (loop score io ks fuel ranked).length = ks.length := by
  induction fuel with
  | zero => exact fun ranked _ h hlen => ⟨h, hlen⟩
  | succ n ih =>
    intro ranked hne h hlen
    rw [loop]
    cases hp : pick (score ranked) (io (remaining ks ranked)) with
    | none =>
      have hnil := (hio (remaining ks ranked)).symm
      rw [pick_eq_none hp] at hnil
      exact absurd hnil.eq_nil (remaining_ne_nil hks (hlen ▸ Nat.lt_add_of_pos_right n.succ_pos))
    | some f =>
      refine ih _ (List.append_ne_nil_of_left_ne_nil hne _)
        (h.concat (fun g => (hio _).mem_iff.trans mem_remaining) ?_)
        (by rw [List.length_append, List.length_singleton, Nat.add_assoc, Nat.add_comm 1]; exact hlen)
      cases ranked with
      | nil => exact absurd rfl hne
      | cons _ _ => exact hp

theorem crit_take {r : List Nat} {k f : Nat} (hk : 1 ≤ k) (h : r[k]? = some f) :
    crit relv score (r.take k) = score (r.take k) := by
  cases r with
  | nil => cases h
  | cons a t => obtain ⟨k, rfl⟩ := Nat.exists_eq_add_of_le' hk; rfl

theorem rank3mrF_greedy (hks : ks.Nodup) (io : List Nat → List Nat) (hio : ∀ l, (io l).Perm l) :
    (rank3mrF ks relv score io).Perm ks ∧ ∀ k, PosOk ks relv score (rank3mrF ks relv score io) k := by
  rw [rank3mrF]
  cases hp : pick relv ks with
  | none => rw [pick_eq_none hp]; exact ⟨.refl _, fun k => posOk_of_length_le (Nat.zero_le k)⟩
  | some f0 =>
    have h0 : Inv ks relv score [f0] :=
      Inv.concat (r := []) ⟨List.nil_subperm, fun k => posOk_of_length_le (Nat.zero_le k)⟩ (fun g => by simp) hp
    obtain ⟨⟨hsub, hok⟩, hlen⟩ := loop_inv io hio hks (ks.length - 1) [f0] (List.cons_ne_nil _ _) h0
      (Nat.add_comm _ _ ▸ Nat.sub_add_cancel (List.length_pos_of_mem (pick_spec hp).1))
    exact ⟨hsub.perm_of_length_le (le_of_eq hlen.symm), hok⟩

theorem posOkB_iff (r : List Nat) (k : Nat) : posOkB ks relv score r k = true ↔ PosOk ks relv score r k := by
  unfold posOkB PosOk
  cases r[k]? with
  | none => simp
  | some f =>
    simp only [List.all_eq_true, Bool.or_eq_true, List.contains_iff_mem, decide_eq_true_eq, Option.some.injEq,
      forall_eq', or_iff_not_imp_left]

theorem isGreedyBF_iff (r : List Nat) :
    isGreedyBF ks relv score r = true ↔ r.Perm ks ∧ ∀ k, PosOk ks relv score r k := by
  rw [isGreedyBF, Bool.and_eq_true, List.isPerm_iff, List.all_eq_true]
  refine and_congr_right fun _ => ⟨fun h k => ?_, fun h k _ => (posOkB_iff r k).mpr (h k)⟩
  by_cases hk : k < r.length
  · exact (posOkB_iff r k).mp (h k (List.mem_range.mpr hk))
  · exact posOk_of_length_le (Nat.le_of_not_lt hk)

theorem isStrictBF_sound (r : List Nat) (h : isStrictBF ks relv score r = true) (k : Nat) :
    PosStrict ks relv score r k := by
  intro f hget g hg hgn hne
  have hk := List.mem_range.mpr (List.getElem?_eq_some_iff.mp hget).1
  have := List.all_eq_true.mp h k hk
  simp only [posStrictB, hget, List.all_eq_true, Bool.or_eq_true, List.contains_iff_mem, decide_eq_true_eq,
    beq_iff_eq] at this
  exact ((this g hg).resolve_left fun h1 => h1.elim hgn hne)

theorem not_mem_take_of_nodup {l : List Nat} (hl : l.Nodup) {k x : Nat} (h : l[k]? = some x) : x ∉ l.take k :=
  fun hm => List.disjoint_take_drop hl (Nat.le_refl k) hm
    (List.mem_of_getElem? (i := 0) (by rw [List.getElem?_drop]; exact h))

/-- two rankings of the same keys, one strictly greedy and one greedy, agree on every prefix: at the first position
where they differed, each would hold a candidate the other has not yet placed, strictly worse and not worse at once -/
theorem greedy_unique (hks : ks.Nodup) (r r' : List Nat) (hr : r.Perm ks)
    (hstrict : ∀ k, PosStrict ks relv score r k) (hg' : r'.Perm ks ∧ ∀ k, PosOk ks relv score r' k) : r' = r := by
  obtain ⟨hr', hok'⟩ := hg'
  have hlen : r'.length = r.length := hr'.length_eq.trans hr.length_eq.symm
  suffices h : ∀ k, r'.take k = r.take k by
    have := h r.length
    rwa [List.take_length, ← hlen, List.take_length] at this
  intro k
  induction k with
  | zero => rfl
  | succ k ih =>
    suffices h : r'[k]? = r[k]? by rw [List.take_add_one, List.take_add_one, ih, h]
    by_cases hk : k < r.length
    · have hk' : k < r'.length := Nat.lt_of_lt_of_eq hk hlen.symm
      have hget : r[k]? = some r[k] := List.getElem?_eq_getElem hk
      have hget' : r'[k]? = some r'[k] := List.getElem?_eq_getElem hk'
      rw [hget, hget']
      by_contra hne
      have h1 : r[k] ∉ r'.take k := by rw [ih]; exact not_mem_take_of_nodup (hr.nodup_iff.mpr hks) hget
      have h2 : r'[k] ∉ r.take k := by rw [← ih]; exact not_mem_take_of_nodup (hr'.nodup_iff.mpr hks) hget'
      have hle := hok' k _ hget' _ (hr.mem_iff.mp (List.getElem_mem hk)) h1
      have hlt := hstrict k _ hget _ (hr'.mem_iff.mp (List.getElem_mem hk')) h2 fun e => hne (congrArg some e)
      rw [ih] at hle
      exact absurd hlt (not_lt.mpr hle)
    · have hk' : r.length ≤ k := Nat.le_of_not_lt hk
      rw [List.getElem?_eq_none hk', List.getElem?_eq_none (hlen ▸ hk')]

end

theorem get2_mkTable (N : Nat) (f : Nat → Nat → Rat) : get2 (mkTable N f) f = f := by
  funext a b
  by_cases ha : a < N <;> by_cases hb : b < N <;>
    simp only [get2, mkTable, Array.getElem?_ofFn, ha, hb, dite_true, dite_false]

theorem get1_mkTable1 (N : Nat) (f : Nat → Rat) : get1 (mkTable1 N f) f = f := by
  funext a
  by_cases ha : a < N <;> simp only [get1, mkTable1, Array.getElem?_ofFn, ha, dite_true, dite_false]

theorem relT_mkTabs (N : Nat) (rel : RelDict) (red rln : PairDict) : relT (mkTabs N rel red rln) rel = relOf rel := by
  simp only [relT, mkTabs, get1_mkTable1]

theorem objectiveT_mkTabs (N : Nat) (rel : RelDict) (red rln : PairDict) (st : Strategy) (α β : Rat) :
    objectiveT (mkTabs N rel red rln) rel red rln st α β = objective (relOf rel) (pairOf red) (pairOf rln) st α β := by
  simp only [objectiveT, relT, mkTabs, get1_mkTable1, get2_mkTable]

end C17

