import OutrankModel.Model.C05
import OutrankModel.Lemmas.ListAux
/-!
Helper lemmas for C05 (core Lean): `maxOver` and `maxFreq`, the pair hash below 800, names that contain a pattern in the
dispatch chain, category codes.
-/
namespace C05

theorem maxOver_spec {β : Type} (l : List β) (f : β → Nat) :
    maxOver l f ∈ 0 :: l.map f ∧ ∀ x ∈ l, f x ≤ maxOver l f := by
  have h := ListAux.foldl_max_spec (l.map f) 0
  rw [List.foldl_map] at h
  exact ⟨h.1, fun x hx => h.2 _ (List.mem_cons_of_mem _ (List.mem_map_of_mem hx))⟩

theorem le_maxOver {β : Type} (l : List β) (f : β → Nat) {x : β} (hx : x ∈ l) : f x ≤ maxOver l f :=
  (maxOver_spec l f).2 x hx

theorem maxOver_le {β : Type} (l : List β) (f : β → Nat) (b : Nat) (h : ∀ x ∈ l, f x ≤ b) : maxOver l f ≤ b := by
  rcases List.mem_cons.1 (maxOver_spec l f).1 with e | hm
  · exact e ▸ Nat.zero_le b
  · obtain ⟨x, hx, e⟩ := List.mem_map.1 hm
    exact e ▸ h x hx

theorem maxOver_attained {β : Type} (l : List β) (f : β → Nat) (hne : l ≠ []) : ∃ x ∈ l, maxOver l f = f x := by
  rcases List.mem_cons.1 (maxOver_spec l f).1 with e | hm
  · obtain ⟨a, ha⟩ := List.exists_mem_of_ne_nil l hne
    exact ⟨a, ha, Nat.le_antisymm (e ▸ Nat.zero_le _) (le_maxOver l f ha)⟩
  · obtain ⟨x, hx, e⟩ := List.mem_map.1 hm
    exact ⟨x, hx, e.symm⟩

theorem count_le_maxFreq {β : Type} [BEq β] (l : List β) {x : β} (hx : x ∈ l) : l.count x ≤ maxFreq l :=
  le_maxOver l (fun x => l.count x) hx

theorem maxFreq_le {β : Type} [BEq β] (l : List β) (b : Nat) (h : ∀ x ∈ l, l.count x ≤ b) : maxFreq l ≤ b :=
  maxOver_le l (fun x => l.count x) b h

theorem maxFreq_attained {β : Type} [BEq β] (l : List β) (hne : l ≠ []) : ∃ x ∈ l, maxFreq l = l.count x :=
  maxOver_attained l (fun x => l.count x) hne

theorem maxFreq_le_map {β γ : Type} [BEq β] [LawfulBEq β] [BEq γ] [LawfulBEq γ] (g : β → γ) (l : List β) :
    maxFreq l ≤ maxFreq (l.map g) :=
  maxFreq_le _ _ fun _ hp => Nat.le_trans List.count_le_count_map (count_le_maxFreq _ (List.mem_map_of_mem hp))

theorem maxFreq_map_of_injOn {β γ : Type} [BEq β] [LawfulBEq β] [BEq γ] [LawfulBEq γ] (g : β → γ) (l : List β)
    (hinj : ∀ p ∈ l, ∀ q ∈ l, g q = g p → q = p) : maxFreq (l.map g) = maxFreq l := by
  refine Nat.le_antisymm (maxFreq_le _ _ fun h hh => ?_) (maxFreq_le_map g l)
  obtain ⟨p, hp, rfl⟩ := List.mem_map.1 hh
  rw [ListAux.count_map_injOn g _ p (hinj p hp)]
  exact count_le_maxFreq _ hp

/-- no non-zero difference of first codes below 800 is mapped within 800 of a multiple of 10^6 (the nearest is 157, at
distance 851: 157·1471343 = 231000851, the collision of `hash_collision`; the first one within 800 is 1169) -/
theorem hash_table_800 (d : Int) (h0 : 0 < d) (h1 : d < 800) :
    800 ≤ d * 1471343 % 1000000 ∧ d * 1471343 % 1000000 ≤ 1000000 - 800 := by
  -- evaluated as a Bool `all` over naturals: several times cheaper for the kernel than `Decidable (∀ d < 800, …)`
  have table : (List.range' 1 799).all (fun d =>
      Nat.ble 800 (d * 1471343 % 1000000) && Nat.ble (d * 1471343 % 1000000) (1000000 - 800)) = true := by
    decide +kernel
  have := List.all_eq_true.1 table d.toNat (List.mem_range'_1.2 ⟨by omega, by omega⟩)
  simp only [Bool.and_eq_true, Nat.ble_eq] at this
  -- omega has no exact elimination for a variable whose coefficient is 1471343 throughout: hide the product
  rw [show d * 1471343 = ((d.toNat * 1471343 : Nat) : Int) by omega]
  generalize d.toNat * 1471343 = u at this
  omega

theorem pairHash_inj_le (a b a' b' : Int) (ha : 0 ≤ a ∧ a < 800) (hb : 0 ≤ b ∧ b < 800)
    (ha' : 0 ≤ a' ∧ a' < 800) (hb' : 0 ≤ b' ∧ b' < 800) (hle : a' ≤ a)
    (h : pairHash (a, b) = pairHash (a', b')) : a = a' ∧ b = b' := by
  have hz : (a * 1471343 - b - (a' * 1471343 - b')) % 1000000 = 0 := Int.emod_eq_emod_iff_emod_sub_eq_zero.mp h
  rcases Int.lt_or_eq_of_le hle with hlt | rfl
  · -- `(a − a')·1471343` is at least 800 away from the multiples of 10^6, `b − b'` is less than 800 away from 0
    have key := hash_table_800 (a - a') (by omega) (by omega)
    rw [Int.sub_mul] at key
    generalize a * 1471343 = u at hz key
    generalize a' * 1471343 = v at hz key
    omega
  · -- same first code: the products cancel, and `b − b'` is less than 800 away from 0
    generalize a' * 1471343 = u at hz
    omega

/-- The branch taken by every name that contains `p`, where the chain alone settles it: each test before the first
substring test is an exact one on names that do not contain `p`, and that substring test asks for `p`. -/
def infixBranch (p : List Char) : List (Cond × Callee) → Option Callee
  | (.eq s, _) :: t => if infixB p s.toList then none else infixBranch p t
  | (.inSet l, _) :: t => if l.any fun s => infixB p s.toList then none else infixBranch p t
  | (.contains s, k) :: _ => if s.toList = p then some k else none
  | [] => none

theorem dispatch_of_infixBranch {p : List Char} {k : Callee} {h : String} (hc : infixB p h.toList = true) :
    ∀ {rules : List (Cond × Callee)}, infixBranch p rules = some k → dispatch rules h = k
  | (.eq s, _) :: t, hb => by
    unfold infixBranch at hb
    split at hb
    · cases hb
    · next hs =>
      rw [dispatch, Cond.holds, if_neg fun (e : (h == s) = true) => hs (beq_iff_eq.1 e ▸ hc)]
      exact dispatch_of_infixBranch hc hb
  | (.inSet l, _) :: t, hb => by
    unfold infixBranch at hb
    split at hb
    · cases hb
    · next hs =>
      rw [dispatch, Cond.holds, if_neg fun (e : l.contains h = true) =>
        hs (List.any_eq_true.2 ⟨h, List.contains_iff_mem.1 e, hc⟩)]
      exact dispatch_of_infixBranch hc hb
  | (.contains s, _) :: _, hb => by
    unfold infixBranch at hb
    split at hb
    · next hs => cases hb; rw [dispatch, Cond.holds, if_pos (show infixB s.toList h.toList = true from hs ▸ hc)]
    · cases hb
  | [], hb => by cases hb

theorem mem_insertS (s v : String) (l : List String) : v ∈ insertS s l ↔ v = s ∨ v ∈ l := by
  induction l with
  | nil => simp [insertS]
  | cons t ts ih =>
    unfold insertS
    split
    · exact List.mem_cons
    · split
      · next h => rw [h, List.mem_cons, ← or_assoc, or_self]
      · rw [List.mem_cons, ih, List.mem_cons, or_left_comm]

theorem mem_categories (vs : List String) (v : String) : v ∈ categories vs ↔ v ∈ vs := by
  induction vs with
  | nil => simp [categories]
  | cons a t ih =>
    have : categories (a :: t) = insertS a (categories t) := rfl
    rw [this, mem_insertS, ih, List.mem_cons]

theorem catCodes_length (vs : List String) : (catCodes vs).length = vs.length := by
  simp [catCodes]

theorem codesOf_codeFrame (f : Frame) (name : String) : codesOf (codeFrame f) name = catCodes (column f name) := by
  rw [codesOf, codeFrame, ListAux.lookup_map_val f (fun _ => catCodes), column]
  cases f.lookup name <;> rfl

theorem triplet_eq {α : Type} (o : MI.Ops α) (rules : List (Cond × Callee)) (cn : String) (f : Frame)
    (label h : String) (rn rd : Nat) (pair : String × String) :
    triplet o rules cn f label h rn rd pair = (pair.1, pair.2,
      scoreOf o (dispatch rules h) (correctionFlag cn h) rn rd
        (catCodes (column f (orient pair label).1)) (catCodes (column f (orient pair label).2))) := by
  simp only [triplet, tripletC, codesOf_codeFrame]

theorem hashInjOn_iff (ps : List (Int × Int)) :
    hashInjOn ps = true ↔ ∀ p ∈ ps, ∀ q ∈ ps, pairHash q = pairHash p → q = p := by
  simp only [hashInjOn, List.all_eq_true, Bool.or_eq_true, Bool.not_eq_true', beq_eq_false_iff_ne, beq_iff_eq, ne_eq,
    ← Decidable.imp_iff_not_or]

end C05
