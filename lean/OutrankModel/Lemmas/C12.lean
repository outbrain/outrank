import OutrankModel.Model.C12
import OutrankModel.Lemmas.ListAux
/-!
What Props/C12 rests on: lookups in a merged association list, the preset loop (its lookups are `lastDef`, given in closed form),
`maxFreq` as a maximum, the hand-named formulas and what every denoted formula satisfies (`intended_spec`, `perRow_*`), the two
scanning steps of the fw name parser, the fw grid without duplicates, and consistency of a registry cut out of a master table with
strictly increasing key codes; last `nthRec` / `pick_eq`, the reads of the master table in the form the kernel evaluates fast
(used by `C12.vault_tables`).  Core Lean only.
-/
namespace C12

section Assoc
variable {K F : Type} [DecidableEq K]

theorem lookup_filter_notin (b : List (K × F)) (ks : List K) (k : K) :
    (b.filter fun p => !ks.contains p.1).lookup k = if k ∈ ks then none else b.lookup k := by
  induction b with
  | nil => simp
  | cons p b ih =>
    obtain ⟨k', v⟩ := p
    by_cases hk' : k' ∈ ks
    · rw [List.filter_cons_of_neg (by simpa using hk'), ih]
      by_cases h : k = k'
      · subst h; simp [hk']
      · simp [List.lookup_cons, beq_false_of_ne h]
    · rw [List.filter_cons_of_pos (by simpa using hk')]
      by_cases h : k = k'
      · subst h; simp [hk']
      · simpa [List.lookup_cons, beq_false_of_ne h] using ih

theorem lookup_isSome_iff_mem_keys (t : List (K × F)) (k : K) : (t.lookup k).isSome ↔ k ∈ keys t := by
  simp only [List.lookup_isSome_iff, keys, List.mem_map, beq_iff_eq]
  exact exists_congr fun _ => and_congr_right fun _ => eq_comm

theorem mem_of_lookup {t : List (K × F)} {k : K} {f : F} (h : t.lookup k = some f) : (k, f) ∈ t := by
  obtain ⟨l₁, l₂, rfl, -⟩ := List.lookup_eq_some_iff.1 h
  simp

theorem lookup_merge (a b : List (K × F)) (k : K) : (merge a b).lookup k = (b.lookup k).or (a.lookup k) := by
  rw [merge, List.lookup_append, ListAux.lookup_map_val a (fun k v => (b.lookup k).getD v) k, lookup_filter_notin]
  cases ha : a.lookup k with
  | some v => cases b.lookup k <;> rfl
  | none =>
    have : k ∉ keys a := fun h => by simpa [ha] using (lookup_isSome_iff_mem_keys a k).2 h
    simp [this]

theorem keys_merge (a b : List (K × F)) :
    keys (merge a b) = keys a ++ (keys b).filter fun k => !(keys a).contains k := by
  simp only [keys, merge, List.map_append, List.map_map, List.filter_map]
  rfl

theorem keys_merge_nodup {a b : List (K × F)} (ha : (keys a).Nodup) (hb : (keys b).Nodup) : (keys (merge a b)).Nodup := by
  rw [keys_merge, List.nodup_append]
  exact ⟨ha, hb.filter _, fun x hx y hy e => by simp [← e, hx] at hy⟩

end Assoc

section Select
variable {K F : Type} [DecidableEq K]

/-! The loop is followed along its own recursion (`fun_induction`): finished (`case1`), unknown namespace, empty namespace (both fail),
merged (`case4`). -/

theorem selectFrom_isSome (reg : List (String × List (K × F))) (names : List String) (acc : List (K × F)) :
    (selectFrom reg acc names).isSome ↔ ∀ nm ∈ names, ∃ t, reg.lookup nm = some t ∧ t ≠ [] := by
  fun_induction selectFrom reg acc names with
  | case1 acc => exact iff_of_true rfl fun _ h => nomatch h
  | case2 acc nm rest hr =>
    refine iff_of_false Bool.false_ne_true fun h => ?_
    obtain ⟨t, ht, -⟩ := h nm List.mem_cons_self
    cases hr.symm.trans ht
  | case3 acc nm rest tn hr he =>
    refine iff_of_false Bool.false_ne_true fun h => ?_
    obtain ⟨t, ht, hne⟩ := h nm List.mem_cons_self
    cases hr.symm.trans ht
    exact hne (List.isEmpty_iff.1 he)
  | case4 acc nm rest tn hr he ih =>
    rw [ih, List.forall_mem_cons]
    exact (and_iff_right ⟨tn, hr, mt List.isEmpty_iff.2 he⟩).symm

theorem selectFrom_keys_nodup {reg : List (String × List (K × F))} (hreg : ∀ nm t, reg.lookup nm = some t → (keys t).Nodup)
    {names : List String} {acc t : List (K × F)} (ha : (keys acc).Nodup) (h : selectFrom reg acc names = some t) :
    (keys t).Nodup := by
  fun_induction selectFrom reg acc names with
  | case1 acc => cases h; exact ha
  | case4 acc nm rest tn hr he ih => exact ih (keys_merge_nodup ha (hreg nm tn hr)) h
  | _ => cases h

/-- the formula of `k` after merging the named tables into `acc`: the LAST named table that has `k` decides -/
def lastDef (reg : List (String × List (K × F))) (k : K) : Option F → List String → Option F
  | cur, [] => cur
  | cur, nm :: rest =>
    lastDef reg k (match (reg.lookup nm).bind (·.lookup k) with
      | some f => some f
      | none => cur) rest

theorem selectFrom_lookup (reg : List (String × List (K × F))) (names : List String) (acc t : List (K × F))
    (h : selectFrom reg acc names = some t) (k : K) : t.lookup k = lastDef reg k (acc.lookup k) names := by
  fun_induction selectFrom reg acc names with
  | case1 acc => cases h; rfl
  | case4 acc nm rest tn hr he ih =>
    rw [ih h, lookup_merge, lastDef, hr, Option.bind_some]
    cases tn.lookup k <;> rfl
  | _ => cases h

theorem lastDef_eq (reg : List (String × List (K × F))) (k : K) (cur : Option F) (names : List String) :
    lastDef reg k cur names = (names.reverse.findSome? fun nm => (reg.lookup nm).bind (·.lookup k)).or cur := by
  induction names generalizing cur with
  | nil => rfl
  | cons nm rest ih =>
    rw [lastDef, ih, List.reverse_cons, List.findSome?_append, Option.or_assoc, List.findSome?_singleton]
    cases (reg.lookup nm).bind (·.lookup k) <;> rfl

theorem lastDef_source {reg : List (String × List (K × F))} {k : K} {f : F} {names : List String}
    (h : lastDef reg k none names = some f) : ∃ nm ∈ names, ∃ t, reg.lookup nm = some t ∧ t.lookup k = some f := by
  rw [lastDef_eq, Option.or_none] at h
  obtain ⟨nm, hn, h⟩ := List.exists_of_findSome?_eq_some h
  obtain ⟨t, ht, hf⟩ := Option.bind_eq_some_iff.1 h
  exact ⟨nm, List.mem_reverse.1 hn, t, ht, hf⟩

theorem lastDef_isSome_iff {reg : List (String × List (K × F))} {k : K} {names : List String} :
    (lastDef reg k none names).isSome ↔ ∃ nm ∈ names, ∃ t, reg.lookup nm = some t ∧ (t.lookup k).isSome := by
  simp only [lastDef_eq, Option.or_none, List.findSome?_isSome_iff, List.mem_reverse, Option.isSome_bind, Option.any_eq_true]

/-- all tables of a registry agree on the names they share -/
def Consistent (reg : List (String × List (K × F))) : Prop :=
  ∀ n₁ t₁ n₂ t₂ k f₁ f₂, reg.lookup n₁ = some t₁ → reg.lookup n₂ = some t₂ → t₁.lookup k = some f₁ → t₂.lookup k = some f₂ → f₁ = f₂

end Select

theorem one_lt_eraseDups_length_iff {α : Type} [DecidableEq α] (l : List α) : 1 < l.eraseDups.length ↔ ∃ a ∈ l, ∃ b ∈ l, a ≠ b := by
  have hnd := ListAux.nodup_eraseDups l
  simp only [← List.mem_eraseDups (l := l)]
  match l.eraseDups, hnd with
  | [], _ => simp
  | [c], _ => simp
  | a :: b :: _, hnd =>
    have hab : a ≠ b := by rintro rfl; simp at hnd
    exact ⟨fun _ => ⟨a, by simp, b, by simp, hab⟩, fun _ => by simp⟩

theorem count_le_maxFreq (col : List String) (v : String) : col.count v ≤ maxFreq col := by
  by_cases hv : v ∈ col
  · exact (ListAux.foldl_max_spec _ 0).2 _ (List.mem_cons_of_mem _ (List.mem_map.2 ⟨v, List.mem_eraseDups.2 hv, rfl⟩))
  · rw [List.count_eq_zero_of_not_mem hv]; exact Nat.zero_le _

theorem maxFreq_attained (col : List String) (h : col ≠ []) : ∃ v ∈ col, col.count v = maxFreq col := by
  rcases List.mem_cons.1 (ListAux.foldl_max_spec (col.eraseDups.map fun v => col.count v) 0).1 with h0 | hm
  · -- the maximum is the starting value 0: impossible, the head of the column occurs
    obtain ⟨a, rest, rfl⟩ := List.exists_cons_of_ne_nil h
    have := count_le_maxFreq (a :: rest) a
    rw [maxFreq, h0, List.count_cons_self] at this
    exact absurd this (Nat.not_succ_le_zero _)
  · obtain ⟨v, hv, hc⟩ := List.mem_map.1 hm
    exact ⟨v, List.mem_eraseDups.1 hv, hc⟩

theorem stripPrefix_append (p s : List Char) : stripPrefix p (p ++ s) = some s := by
  induction p with
  | nil => rfl
  | cons c p ih => simp [stripPrefix, ih]

theorem breakOn_append {s : Char} {res : List Char} (h : s ∉ res) (sep gt : List Char) :
    breakOn (s :: sep) (res ++ ((s :: sep) ++ gt)) = some (res, gt) := by
  induction res with
  | nil => simp [breakOn, stripPrefix, stripPrefix_append]
  | cons c res ih =>
    have hc : s ≠ c := fun e => h (e ▸ List.mem_cons_self)
    simpa [breakOn, stripPrefix, hc] using ih fun hm => h (List.mem_cons_of_mem _ hm)

theorem isLit_head {cs : List Char} (h : isLit cs = true) : ∃ c rest, cs = c :: rest ∧ litChar c = true := by
  unfold isLit at h
  cases cs with
  | nil => simp at h
  | cons c rest => simp at h; exact ⟨c, rest, rfl, h.1⟩

theorem intended_spec {name : String} {e : Expr} (h : intended name = some e) : name ∈ intendedNames ∧ e.perRow = true := by
  unfold intended at h
  split at h <;> cases h <;> exact ⟨by simp only [intendedNames, List.mem_cons, true_or, or_true], by decide⟩

theorem perRow_fwTemplate (k : FwKey) : (fwTemplate k).perRow = true := rfl

/-- no hand-named formula has a name of the fw form, so `denotes` never has to choose -/
theorem intended_eq_none_of_parse {name : String} {k : FwKey} (h : parseFwName name = some k) : intended name = none := by
  have hn : ∀ n ∈ intendedNames, parseFwName n = none := by decide +kernel
  cases hi : intended name with
  | none => rfl
  | some e => rw [hn name (intended_spec hi).1] at h; cases h

theorem perRow_denotes {name : String} {e : Expr} (h : denotes name = some e) : e.perRow = true := by
  unfold denotes at h
  split at h
  · cases h; exact (intended_spec ‹_›).2
  · obtain ⟨k, -, rfl⟩ := Option.map_eq_some_iff.1 h
    exact perRow_fwTemplate k

theorem fwGrid_nodup : fwGrid.Nodup := by
  refine ListAux.nodup_flatMap_of (·.prob) (by decide) (fun prob _ => ?_) ?_
  refine ListAux.nodup_flatMap_of (·.res) (by decide +kernel) (fun res _ => ?_) ?_
  refine ListAux.nodup_flatMap_of (·.gt) (by cases prob <;> decide +kernel) (fun gt _ => by simp) ?_
  all_goals simp only [List.mem_flatMap, List.mem_map]
  · rintro _ _ _ ⟨_, _, rfl⟩; rfl
  · rintro _ _ _ ⟨_, _, _, _, rfl⟩; rfl
  · rintro _ _ _ ⟨_, _, _, _, _, _, rfl⟩; rfl

/-- `l[i]?` by `Nat.rec` on the index.  The kernel evaluates this several times faster than `getElem?` (compiled through
`brecOn`), which decides the cost of the 152 reads of the 468-entry master table in `vault_tables`. -/
def nthRec {α : Type} (l : List α) (i : Nat) : Option α :=
  Nat.rec (motive := fun _ => List α → Option α) List.head? (fun _ ih l => ih l.tail) i l

theorem nthRec_eq {α : Type} (l : List α) (i : Nat) : nthRec l i = l[i]? := by
  induction i generalizing l with
  | zero => cases l <;> rfl
  | succ i ih => exact (ih l.tail).trans (by cases l <;> simp)

theorem pick_eq {α : Type} (m : Array α) (idx : List Nat) : pick m idx = idx.filterMap (nthRec m.toList) := by
  have : nthRec m.toList = (m[·]?) := funext fun i => by rw [nthRec_eq, Array.getElem?_toList]
  rw [this, pick]

theorem pairwise_of_strictlyIncreasing : ∀ l : List Nat, strictlyIncreasing l = true → l.Pairwise (· < ·)
  | [], _ => List.Pairwise.nil
  | [_], _ => by simp
  | a :: b :: rest, h => by
    simp only [strictlyIncreasing, Bool.and_eq_true, decide_eq_true_eq] at h
    have ih := pairwise_of_strictlyIncreasing (b :: rest) h.2
    refine List.pairwise_cons.2 ⟨fun x hx => ?_, ih⟩
    rcases List.mem_cons.1 hx with rfl | hx
    · exact h.1
    · exact Nat.lt_trans h.1 (List.rel_of_pairwise_cons ih hx)

theorem mem_master_of_lookup {α : Type} {m : Array α} {idx : List (String × List Nat)} {presets : List (String × String)}
    {nm : String} {t : List α} (h : (mkRegistry presets (mkTables m idx)).lookup nm = some t) : ∀ x ∈ t, x ∈ m.toList := by
  obtain ⟨p, -, hp⟩ := List.mem_filterMap.1 (mem_of_lookup h)
  obtain ⟨t', ht', e⟩ := Option.map_eq_some_iff.1 hp
  obtain ⟨q, -, hq⟩ := List.mem_map.1 (mem_of_lookup ht')
  obtain rfl : pick m q.2 = t := (Prod.mk.inj hq).2.trans (Prod.mk.inj e).2
  intro x hx
  obtain ⟨i, -, hi⟩ := List.mem_filterMap.1 hx
  exact Array.mem_toList_iff.2 (Array.mem_of_getElem? hi)

/-- every entry of a table of the registry is an entry of the master table, and two master entries with the same name have the
same code, so they are the same entry -/
theorem consistent_of_sorted (m : Array (String × String)) (idx : List (String × List Nat)) (presets : List (String × String))
    (h : strictlyIncreasing (m.toList.map fun p => keyCode p.1) = true) :
    Consistent (mkRegistry presets (mkTables m idx)) := by
  intro n₁ t₁ n₂ t₂ k f₁ f₂ h₁ h₂ hk₁ hk₂
  have hp := List.pairwise_map.1 (pairwise_of_strictlyIncreasing _ h)
  have key : ∀ x ∈ m.toList, ∀ y ∈ m.toList, x.1 = y.1 → x = y := fun x hx y hy =>
    List.Pairwise.forall_of_forall_of_flip (R := fun x y : String × String => x.1 = y.1 → x = y) (fun _ _ _ => rfl)
      (hp.imp fun hlt e => absurd (e ▸ hlt) (Nat.lt_irrefl _)) (hp.imp fun hlt e => absurd (e ▸ hlt) (Nat.lt_irrefl _)) hx hy
  exact (Prod.mk.inj (key _ (mem_master_of_lookup h₁ _ (mem_of_lookup hk₁)) _
    (mem_master_of_lookup h₂ _ (mem_of_lookup hk₂)) rfl)).2

end C12
